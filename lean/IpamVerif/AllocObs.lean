import IpamVerif.AllocLemmas
import IpamVerif.Props.C17
/-!
# What the history invariants see of the allocator state

`Safety.Inv` and `Safety.Tight` look at the allocator state through three relations — which node is associated
with which entry (`Claims`), which block is in use in which entry (`UsedAt`), which labels select an entry
(`Elig`) — and through `Alloc.WF` and `RangesDisj`.  All three relations say "entry `i` exists and satisfies `P`"
(`Alloc.At`), so what replacing an entry does is said once, at the entry and away from it (`Alloc.at_set_self`,
`Alloc.at_set_ne`), and one pair about growing states (`AllocLe.at_fwd`, `AllocLe.at_bwd`) moves them all.  Then
what the operations of a node item do to the three relations, exactly: giving blocks back (`release_exact`,
`releaseAll_exact`, `releaseNode_exact`), marking them (`occupy_inUse`), the re-sync of a node that is associated
already (`occupyNode_noop`).  No `Sys` here.
-/
namespace Ipam

def Alloc.At (a : Alloc) (i : Nat) (P : CC → Prop) : Prop := ∃ c, a.get? i = some c ∧ P c

namespace Restart
/-- `cd` is one of the blocks `c` cuts its range into -/
def IsBlock (c : CC) (cd : Cidr) : Prop := ∃ p k, c.pool cd.fam = some p ∧ k < p.max ∧ goBlock p.geo k = cd
/-- `cd` is a block of `c` that is in use -/
def InUse (c : CC) (cd : Cidr) : Prop := ∃ p k, c.pool cd.fam = some p ∧ k ∈ p.used ∧ goBlock p.geo k = cd
end Restart
open Restart (IsBlock InUse)

namespace Safety

def Claims (a : Alloc) (x : String) (i : Nat) : Prop := ∃ c, a.get? i = some c ∧ x ∈ c.assoc
def UsedAt (a : Alloc) (i : Nat) (cd : Cidr) : Prop :=
  ∃ c p k, a.get? i = some c ∧ c.pool cd.fam = some p ∧ k ∈ p.used ∧ goBlock p.geo k = cd
def Elig (a : Alloc) (i : Nat) (ls : Labels) : Prop :=
  ∃ c, a.get? i = some c ∧ ((matchCIDR c.reqs ls).1 = true ∨ (c.key == defaultKey) = true)
def RangesDisj (a : Alloc) : Prop :=
  ∀ i j c d f p q, a.get? i = some c → a.get? j = some d → c.pool f = some p → d.pool f = some q → i ≠ j →
    p.geo.range.Disjoint q.geo.range

/-- `Claims a x i` and `Elig a i ls` unfold to `a.At i _` (`show`); `UsedAt` does, up to the order of its quantifiers -/
theorem usedAt_iff {a : Alloc} {i : Nat} {cd : Cidr} : UsedAt a i cd ↔ a.At i (InUse · cd) :=
  ⟨fun ⟨c, p, k, hg, h⟩ => ⟨c, hg, p, k, h⟩, fun ⟨c, hg, p, k, h⟩ => ⟨c, p, k, hg, h⟩⟩

end Safety

theorem Alloc.at_self {a : Alloc} {i : Nat} {c : CC} (hg : a.get? i = some c) (P : CC → Prop) : a.At i P ↔ P c :=
  ⟨fun ⟨_, hd, hp⟩ => Option.some.inj (hg.symm.trans hd) ▸ hp, fun hp => ⟨c, hg, hp⟩⟩

theorem Alloc.at_set_self {a : Alloc} {i : Nat} {c : CC} (hg : a.get? i = some c) (c' : CC) (P : CC → Prop) :
    (a.set i c').At i P ↔ P c' :=
  Alloc.at_self (Alloc.get?_set_self _ _ _ _ hg) P

theorem Alloc.at_set_ne {a : Alloc} {i j : Nat} (hj : j ≠ i) (c' : CC) (P : CC → Prop) : (a.set i c').At j P ↔ a.At j P := by
  unfold Alloc.At; rw [Alloc.get?_set_ne _ _ _ _ (Ne.symm hj)]

theorem Alloc.at_set_congr {a : Alloc} {i : Nat} {c c' : CC} (hg : a.get? i = some c) {P : CC → Prop} (hP : P c' ↔ P c)
    (j : Nat) : (a.set i c').At j P ↔ a.At j P := by
  by_cases hj : j = i
  · subst hj; rw [Alloc.at_set_self hg, Alloc.at_self hg, hP]
  · rw [Alloc.at_set_ne hj]

theorem AllocLe.at_fwd {a a' : Alloc} (h : AllocLe a a') {P P' : CC → Prop} (hP : ∀ c c', CCLe c c' → P c → P' c')
    {i : Nat} (hi : a.At i P) : a'.At i P' := by
  obtain ⟨c, hg, hp⟩ := hi
  obtain ⟨c', hg', hle⟩ := h.2 i c hg
  exact ⟨c', hg', hP c c' hle hp⟩

theorem AllocLe.at_bwd {a a' : Alloc} (h : AllocLe a a') {P P' : CC → Prop} (hP : ∀ c c', CCLe c c' → P' c' → P c)
    {i : Nat} (hi : a'.At i P') : a.At i P := by
  obtain ⟨c', hg', hp⟩ := hi
  obtain ⟨c, hg, hle⟩ := h.get_rev hg'
  exact ⟨c, hg, hP c c' hle hp⟩

theorem Restart.InUse.le {c c' : CC} (h : CCLe c c') {cd : Cidr} (hu : InUse c cd) : InUse c' cd := by
  obtain ⟨p, k, hp, hk, hb⟩ := hu
  obtain ⟨p', hp', hle⟩ := h.pool_fwd hp
  exact ⟨p', k, hp', hle.2.2 k hk, by rw [hle.1]; exact hb⟩

theorem Restart.InUse.isBlock {c : CC} (hc : c.WF) {cd : Cidr} (h : InUse c cd) : IsBlock c cd := by
  obtain ⟨p, k, hp, hk, hb⟩ := h
  exact ⟨p, k, hp, (hc _ p hp).inv.bound k hk, hb⟩

/-- every pool of `c` has a counterpart of the same geometry in `c'`: all that `IsBlock` and `RangesDisj` read of the pools -/
def CC.GeoLe (c c' : CC) : Prop := ∀ f p, c.pool f = some p → ∃ p', c'.pool f = some p' ∧ p'.geo = p.geo

theorem CC.GeoLe.of_pool_eq {c c' : CC} (h : ∀ g, c'.pool g = c.pool g) : c.GeoLe c' := fun f p hp => ⟨p, (h f).trans hp, rfl⟩

theorem CCLe.geoLe {c c' : CC} (h : CCLe c c') : c.GeoLe c' := fun _ _ hp =>
  let ⟨p', hp', hle⟩ := h.pool_fwd hp
  ⟨p', hp', hle.1⟩

theorem CCLe.geoGe {c c' : CC} (h : CCLe c c') : c'.GeoLe c := fun _ _ hp =>
  let ⟨p, hp0, hle⟩ := h.pool_bwd hp
  ⟨p, hp0, hle.1.symm⟩

theorem Restart.IsBlock.of_geo {c c' : CC} (h : c.GeoLe c') {cd : Cidr} (hb : IsBlock c cd) : IsBlock c' cd := by
  obtain ⟨p, k, hp, hk, hbk⟩ := hb
  obtain ⟨p', hp', hg⟩ := h _ p hp
  exact ⟨p', k, hp', by unfold Pool.max; rw [hg]; exact hk, hg ▸ hbk⟩

theorem inUse_setPool_add {c : CC} {f : Fam} {p q : Pool} (hp : c.pool f = some p) (hf : p.geo.fam = f) (hg : q.geo = p.geo)
    {k : Nat} (hm : ∀ k', k' ∈ q.used ↔ k' = k ∨ k' ∈ p.used) (cd : Cidr) :
    InUse (c.setPool f q) cd ↔ InUse c cd ∨ cd = goBlock p.geo k := by
  unfold InUse
  by_cases hcf : cd.fam = f
  · rw [hcf, CC.pool_setPool_same, hp]
    constructor
    · rintro ⟨_, k', e, hk', rfl⟩
      cases e
      exact ((hm k').mp hk').symm.imp (fun h => ⟨p, k', rfl, h, hg ▸ rfl⟩) fun (e : k' = k) => by rw [hg, e]
    · rintro (⟨_, k', e, hk', rfl⟩ | rfl)
      · cases e; exact ⟨q, k', rfl, (hm k').mpr (.inr hk'), hg ▸ rfl⟩
      · exact ⟨q, k, rfl, (hm k).mpr (.inl rfl), hg ▸ rfl⟩
  · rw [CC.pool_setPool_other _ _ _ _ hcf]
    exact ⟨.inl, fun h => h.resolve_right fun e => hcf (e ▸ hf)⟩

theorem goBlock_inj {f : Fam} {p : Pool} (hp : PoolOK f p) {k k' : Nat} (hk : k < p.max) (hk' : k' < p.max)
    (h : goBlock p.geo k = goBlock p.geo k') : k = k' :=
  Decidable.by_contra fun hne => Cidr.not_disjoint_self _ (h ▸ C13.blocks_disjoint hp.supported hk hk' hne)

namespace Safety

theorem claims_le {a a' : Alloc} (h : AllocLe a a') (x : String) (i : Nat) : Claims a' x i ↔ Claims a x i :=
  ⟨h.at_bwd fun _ _ hle hx => hle.2.2.2.1 ▸ hx, h.at_fwd fun _ _ hle hx => hle.2.2.2.1 ▸ hx⟩

theorem usedAt_le {a a' : Alloc} (h : AllocLe a a') {i : Nat} {cd : Cidr} (hu : UsedAt a i cd) : UsedAt a' i cd :=
  usedAt_iff.mpr (h.at_fwd (fun _ _ hle => InUse.le hle) (usedAt_iff.mp hu))

theorem elig_le {a a' : Alloc} (h : AllocLe a a') {i : Nat} {ls : Labels} (he : Elig a i ls) : Elig a' i ls :=
  h.at_fwd (fun _ _ hle hm => by rw [hle.2.1, hle.1]; exact hm) he

theorem elig_ge {a a' : Alloc} (h : AllocLe a' a) {i : Nat} {ls : Labels} (he : Elig a i ls) : Elig a' i ls :=
  h.at_bwd (fun _ _ hle hm => by rw [← hle.2.1, ← hle.1]; exact hm) he

/-- `RangesDisj` reads positions and pool geometries only -/
theorem rangesDisj_of_geo {a a' : Alloc} (h : ∀ j c', a'.get? j = some c' → ∃ c, a.get? j = some c ∧ c'.GeoLe c)
    (hr : RangesDisj a) : RangesDisj a' := by
  intro i j c' d' f p' q' hi hj hp hq hne
  obtain ⟨c, hc, hcp⟩ := h i c' hi
  obtain ⟨d, hd, hdq⟩ := h j d' hj
  obtain ⟨p, hp0, hpg⟩ := hcp f p' hp
  obtain ⟨q, hq0, hqg⟩ := hdq f q' hq
  rw [← hpg, ← hqg]
  exact hr i j c d f p q hc hd hp0 hq0 hne

theorem rangesDisj_le {a a' : Alloc} (h : AllocLe a a') (hr : RangesDisj a) : RangesDisj a' :=
  rangesDisj_of_geo (fun _ _ hj => let ⟨c, hc, hle⟩ := h.get_rev hj; ⟨c, hc, hle.geoGe⟩) hr

theorem rangesDisj_ge {a a' : Alloc} (h : AllocLe a' a) (hr : RangesDisj a) : RangesDisj a' :=
  rangesDisj_of_geo (fun j c' hj => let ⟨c, hc, hle⟩ := h.2 j c' hj; ⟨c, hc, hle.geoLe⟩) hr

theorem allocLe_set_cc {a : Alloc} {j : Nat} {c c' : CC} (hg : a.get? j = some c) (hle : CCLe c c') : AllocLe a (a.set j c') :=
  AllocLe.set hg hle

theorem usedAt_set_pools {a : Alloc} {i : Nat} {c c' : CC} (hc : a.get? i = some c) (hp : ∀ g, c'.pool g = c.pool g)
    (j : Nat) (cd : Cidr) : UsedAt (a.set i c') j cd ↔ UsedAt a j cd := by
  rw [usedAt_iff, usedAt_iff]
  exact Alloc.at_set_congr hc (by unfold InUse; rw [hp]) j

theorem elig_set_static {a : Alloc} {i : Nat} {c c' : CC} (hc : a.get? i = some c) (hk : c'.key = c.key) (hr : c'.reqs = c.reqs)
    (j : Nat) (ls : Labels) : Elig (a.set i c') j ls ↔ Elig a j ls :=
  Alloc.at_set_congr hc (by rw [hk, hr]) j

theorem rangesDisj_set_pools {a : Alloc} {i : Nat} {c c' : CC} (hc : a.get? i = some c) (hp : ∀ g, c'.pool g = c.pool g)
    (h : RangesDisj a) : RangesDisj (a.set i c') := by
  refine rangesDisj_of_geo (fun j d hd => ?_) h
  by_cases hij : i = j
  · subst hij
    rw [Alloc.get?_set_self _ _ _ _ hc] at hd; cases hd
    exact ⟨c, hc, .of_pool_eq fun g => (hp g).symm⟩
  · rw [Alloc.get?_set_ne _ _ _ _ hij] at hd
    exact ⟨d, hd, .of_pool_eq fun _ => rfl⟩

theorem mem_addAssoc {c : CC} {name x : String} : x ∈ (c.addAssoc name).assoc ↔ x ∈ c.assoc ∨ x = name := by
  unfold CC.addAssoc
  split
  · rename_i h
    exact ⟨Or.inl, fun h' => h'.elim id (fun e => e ▸ by simpa using h)⟩
  · simp only [List.mem_cons]; exact Or.comm

theorem addAssoc_static (c : CC) (name : String) : (c.addAssoc name).key = c.key ∧ (c.addAssoc name).reqs = c.reqs := by
  unfold CC.addAssoc; split <;> exact ⟨rfl, rfl⟩

theorem delAssoc_pool (c : CC) (x : String) (g : Fam) : (c.delAssoc x).pool g = c.pool g := by
  unfold CC.delAssoc CC.pool; cases g <;> rfl

theorem mem_delAssoc {c : CC} {x y : String} : y ∈ (c.delAssoc x).assoc ↔ y ∈ c.assoc ∧ y ≠ x := by
  unfold CC.delAssoc
  simp [List.mem_filter]

theorem claims_addAssoc {a : Alloc} {i : Nat} {c : CC} (hc : a.get? i = some c) (name x : String) (j : Nat) :
    Claims (a.set i (c.addAssoc name)) x j ↔ Claims a x j ∨ (x = name ∧ j = i) := by
  show (a.set i _).At j _ ↔ a.At j _ ∨ _
  by_cases hj : j = i
  · subst hj; rw [Alloc.at_set_self hc, Alloc.at_self hc, mem_addAssoc]; simp only [and_true]
  · rw [Alloc.at_set_ne hj]; simp only [hj, and_false, or_false]

theorem claims_delAssoc {a : Alloc} {i : Nat} {c : CC} (hc : a.get? i = some c) (name x : String) (j : Nat) :
    Claims (a.set i (c.delAssoc name)) x j ↔ Claims a x j ∧ ¬ (x = name ∧ j = i) := by
  show (a.set i _).At j _ ↔ a.At j _ ∧ _
  by_cases hj : j = i
  · subst hj; rw [Alloc.at_set_self hc, Alloc.at_self hc, mem_delAssoc]; simp only [and_true, ne_eq]
  · rw [Alloc.at_set_ne hj]; simp only [hj, and_false, not_false_eq_true, and_true]

theorem usedAt_addAssoc {a : Alloc} {i : Nat} {c : CC} (hc : a.get? i = some c) (name : String) (j : Nat) (cd : Cidr) :
    UsedAt (a.set i (c.addAssoc name)) j cd ↔ UsedAt a j cd := usedAt_set_pools hc (c.addAssoc_pool name) j cd

theorem elig_addAssoc {a : Alloc} {i : Nat} {c : CC} (hc : a.get? i = some c) (name : String) {j : Nat} {ls : Labels}
    (h : Elig a j ls) : Elig (a.set i (c.addAssoc name)) j ls :=
  (elig_set_static hc (addAssoc_static c name).1 (addAssoc_static c name).2 j ls).mpr h

theorem rangesDisj_addAssoc {a : Alloc} {i : Nat} {c : CC} (hc : a.get? i = some c) (name : String) (h : RangesDisj a) :
    RangesDisj (a.set i (c.addAssoc name)) := rangesDisj_set_pools hc (c.addAssoc_pool name) h

theorem usedAt_sub_range {a : Alloc} (ha : a.WF) {i : Nat} {cd : Cidr} (hu : UsedAt a i cd) :
    ∃ c p, a.get? i = some c ∧ c.pool cd.fam = some p ∧ cd.Sub p.geo.range ∧ cd.WF := by
  obtain ⟨c, p, k, hg, hp, hk, hb⟩ := hu
  have hok := ha i c hg _ p hp
  have hkm : k < p.max := hok.inv.bound k hk
  obtain ⟨_, hwf, hsub⟩ := C13.block_is_ith_subrange hok.supported hkm
  exact ⟨c, p, hg, hp, hb ▸ hsub, hb ▸ hwf⟩

theorem usedAt_isBlock {a : Alloc} (ha : a.WF) {i : Nat} {cd : Cidr} (hu : UsedAt a i cd) : a.At i (IsBlock · cd) :=
  let ⟨c, hg, h⟩ := usedAt_iff.mp hu
  ⟨c, hg, h.isBlock (ha i c hg)⟩

theorem release_exact {c c' : CC} (hc : c.WF) {cd : Cidr} (hcd : cd.WF) (h : c.release cd = some c') :
    c'.WF ∧ CCLe c' c ∧ ∀ cd', InUse c' cd' ↔ InUse c cd' ∧ (cd'.fam = cd.fam → cd'.Disjoint cd) := by
  obtain ⟨p, p', hp, hr, rfl⟩ := CC.release_eq_some.mp h
  have hok := hc _ p hp
  obtain ⟨hI, hg, _, hl, hm⟩ := (C14.release_refines hok.supported hok.inv hcd).2 p' hr
  refine ⟨CC.WF_setPool hc ⟨hI, hg ▸ hok.supported, hg ▸ hok.fam⟩,
    (CCLe.refl c).setPool_left hp ⟨hg.symm, hl.symm, fun k hk => ((hm k).mp hk).1⟩, fun cd' => ?_⟩
  unfold InUse
  by_cases hf : cd'.fam = cd.fam
  · rw [hf, hp, CC.pool_setPool_same]
    constructor
    · rintro ⟨_, k, hq, hk, hb⟩
      cases hq
      obtain ⟨hk0, hnt⟩ := (hm k).mp hk
      rw [hg] at hb
      exact ⟨⟨p, k, rfl, hk0, hb⟩, fun _ => Classical.not_not.mp fun hnd => hnt ⟨hok.inv.bound k hk0, hb ▸ hnd⟩⟩
    · rintro ⟨⟨_, k, hq, hk, hb⟩, hd⟩
      cases hq
      exact ⟨p', k, rfl, (hm k).mpr ⟨hk, fun ht => ht.2 (hb ▸ hd rfl)⟩, by rw [hg]; exact hb⟩
  · rw [CC.pool_setPool_other _ _ _ _ hf]
    exact ⟨fun h => ⟨h, fun e => absurd e hf⟩, fun h => h.1⟩

theorem release_block {c : CC} (hc : c.WF) {cd : Cidr} (h : IsBlock c cd) :
    ∃ c', c.release cd = some c' ∧ c'.WF ∧ CCLe c' c ∧ ∀ cd', InUse c' cd' ↔ InUse c cd' ∧ cd' ≠ cd := by
  obtain ⟨p, k, hp, hk, rfl⟩ := h
  have hok := hc _ p hp
  have hr := C14.release_block hok.supported hk
  obtain ⟨hwf, hle, hu⟩ := release_exact hc (goBlock_WF hok hk) (CC.release_of_pool rfl hp hr)
  refine ⟨_, CC.release_of_pool rfl hp hr, hwf, hle, fun cd' => ?_⟩
  rw [hu]
  refine and_congr_right fun ⟨q, j, hq, hj, hb⟩ => ⟨fun hd e => Cidr.not_disjoint_self cd' (e ▸ hd (e ▸ rfl)), fun hne hf => ?_⟩
  -- another block of the same pool
  rw [hf, hp] at hq; cases hq
  exact hb ▸ C13.blocks_disjoint hok.supported (hok.inv.bound j hj) hk fun e => hne (hb ▸ e ▸ rfl)

/-- what an accepted `Occupy` marks: the blocks of the CIDR's family that meet it -/
theorem occupy_inUse {c c' : CC} (hc : c.WF) {cd : Cidr} (hcd : cd.WF) (h : c.occupy cd = some c') (cd' : Cidr) :
    InUse c' cd' ↔ InUse c cd' ∨ (IsBlock c cd' ∧ cd'.fam = cd.fam ∧ ¬ cd'.Disjoint cd) := by
  obtain ⟨p, p', hp, ho, rfl⟩ := CC.occupy_eq_some.mp h
  have hok := hc _ p hp
  obtain ⟨_, hg, _, _, hm⟩ := (C14.occupy_refines hok.supported hok.inv hcd).2 p' ho
  unfold InUse IsBlock
  by_cases hf : cd'.fam = cd.fam
  · rw [hf, hp, CC.pool_setPool_same]
    constructor
    · rintro ⟨_, k, hq, hk, hb⟩
      cases hq
      rw [hg] at hb
      exact ((hm k).mp hk).imp (fun hk0 => ⟨p, k, rfl, hk0, hb⟩) fun ht => ⟨⟨p, k, rfl, ht.1, hb⟩, rfl, hb ▸ ht.2⟩
    · rintro (⟨_, k, hq, hk, hb⟩ | ⟨⟨_, k, hq, hk, hb⟩, _, hnd⟩) <;> cases hq
      · exact ⟨p', k, rfl, (hm k).mpr (Or.inl hk), hg ▸ hb⟩
      · exact ⟨p', k, rfl, (hm k).mpr (Or.inr ⟨hk, hb ▸ hnd⟩), hg ▸ hb⟩
  · rw [CC.pool_setPool_other _ _ _ _ hf]
    exact ⟨Or.inl, fun h => h.resolve_right fun h' => hf h'.2.1⟩

/-- any list, wherever the loop stops; on blocks of the entry it cannot stop and the answer is exact (`releaseAll_exact`) -/
theorem releaseAll_spec (i : Nat) : ∀ (cs : List Cidr) (a : Alloc), a.WF → (∀ cd ∈ cs, cd.WF) →
    ∀ a' ok, a.releaseAll i cs = (a', ok) →
      a'.WF ∧ AllocLe a' a ∧
      (∀ j cd, UsedAt a j cd → (j ≠ i ∨ ∀ c ∈ cs, c.fam = cd.fam → cd.Disjoint c) → UsedAt a' j cd) := by
  intro cs
  induction cs with
  | nil => rintro a ha _ a' ok ⟨⟩; exact ⟨ha, AllocLe.refl _, fun _ _ hu _ => hu⟩
  | cons c0 rest ih =>
    intro a ha hw a' ok h
    unfold Alloc.releaseAll at h
    cases hg : a.get? i with
    | none => rw [hg] at h; cases h; exact ⟨ha, AllocLe.refl _, fun _ _ hu _ => hu⟩
    | some c =>
      rw [hg] at h
      simp only at h
      cases hr : c.release c0 with
      | none => rw [hr] at h; cases h; exact ⟨ha, AllocLe.refl _, fun _ _ hu _ => hu⟩
      | some c' =>
        rw [hr] at h
        obtain ⟨hwf', hle, hu⟩ := release_exact (ha i c hg) (hw c0 (List.mem_cons_self ..)) hr
        obtain ⟨h1, h2, h3⟩ := ih (a.set i c') (Alloc.WF_set ha hwf') (fun cd hcd => hw cd (List.mem_cons_of_mem _ hcd)) a' ok h
        refine ⟨h1, AllocLe.trans h2 (AllocLe.set_rev hg hle), fun j cd hused hcond => ?_⟩
        refine h3 j cd ?_ (hcond.imp_right fun hd x hx => hd x (List.mem_cons_of_mem _ hx))
        rw [usedAt_iff] at hused ⊢
        by_cases hji : j = i
        · subst hji
          rw [Alloc.at_set_self hg, hu]
          exact ⟨(Alloc.at_self hg _).mp hused, fun hf => (hcond.resolve_left (fun hn => hn rfl)) c0 (List.mem_cons_self ..) hf.symm⟩
        · rwa [Alloc.at_set_ne hji]

theorem releaseAll_exact (i : Nat) : ∀ (cs : List Cidr) (a : Alloc), a.WF → (∀ cd ∈ cs, a.At i (IsBlock · cd)) →
    ∃ a', a.releaseAll i cs = (a', true) ∧ a'.WF ∧ AllocLe a' a ∧
      ∀ j cd, UsedAt a' j cd ↔ UsedAt a j cd ∧ ¬ (j = i ∧ cd ∈ cs) := by
  intro cs
  induction cs with
  | nil => exact fun a ha _ => ⟨a, rfl, ha, AllocLe.refl a, fun j cd => ⟨fun h => ⟨h, fun e => nomatch e.2⟩, (·.1)⟩⟩
  | cons c0 rest ih =>
    intro a ha hall
    obtain ⟨c, hg, hb⟩ := hall c0 (List.mem_cons_self ..)
    obtain ⟨c', hr, hwf', hle, huses⟩ := release_block (ha i c hg) hb
    -- the other listed CIDRs are still blocks of the entry
    obtain ⟨a', hra, hwfa, hle2, hu⟩ := ih (a.set i c') (Alloc.WF_set ha hwf') fun cd hcd =>
      (Alloc.at_set_self hg ..).mpr (((Alloc.at_self hg _).mp (hall cd (List.mem_cons_of_mem _ hcd))).of_geo hle.geoGe)
    refine ⟨a', by simp only [Alloc.releaseAll, hg, hr, hra], hwfa, AllocLe.trans hle2 (AllocLe.set_rev hg hle), fun j cd => ?_⟩
    rw [hu, usedAt_iff, usedAt_iff, List.mem_cons]
    by_cases hji : j = i
    · subst hji
      rw [Alloc.at_set_self hg, Alloc.at_self hg, huses]
      simp only [true_and, not_or, and_assoc, ne_eq]
    · rw [Alloc.at_set_ne hji]
      simp only [hji, false_and]

theorem mem_indexed {a : Alloc} {i : Nat} {c : CC} : (i, c) ∈ a.indexed ↔ a.get? i = some c := C17.mem_indexed

/-- for a release every entry whose selector the labels satisfy (or that is filed under the catch-all key)
is in the list, terminating or not -/
theorem mem_ordered_false_of_elig {a : Alloc} {i : Nat} {ls : Labels} (h : Elig a i ls) : i ∈ a.ordered ls false := by
  obtain ⟨c, hg, hm⟩ := h
  exact C17.mem_ordered.mpr ⟨c, hg, .inl rfl, hm.imp_right beq_iff_eq.mp⟩

theorem allocatedCC_some {a : Alloc} {x : String} : ∀ (l : List Nat) {i : Nat}, a.allocatedCC x l = some i → Claims a x i := by
  intro l
  induction l with
  | nil => intro i h; cases h
  | cons j rest ih =>
    intro i h
    unfold Alloc.allocatedCC at h
    cases hg : a.get? j with
    | none => rw [hg] at h; exact ih h
    | some c =>
      rw [hg] at h
      simp only at h
      split at h
      · rename_i hc
        cases h
        exact ⟨c, hg, by simpa using hc⟩
      · exact ih h

theorem allocatedCC_none {a : Alloc} {x : String} : ∀ (l : List Nat), a.allocatedCC x l = none → ∀ i ∈ l, ¬ Claims a x i := by
  intro l
  induction l with
  | nil => intro _ i hi; cases hi
  | cons j rest ih =>
    intro h i hi
    unfold Alloc.allocatedCC at h
    cases hg : a.get? j with
    | none =>
      rw [hg] at h
      rcases List.mem_cons.mp hi with rfl | hi
      · rintro ⟨c, hc, _⟩; rw [hg] at hc; cases hc
      · exact ih h i hi
    | some c =>
      rw [hg] at h
      simp only at h
      split at h
      · cases h
      · rename_i hc
        rcases List.mem_cons.mp hi with rfl | hi
        · rintro ⟨c', hc', hx⟩
          rw [hg] at hc'; cases hc'
          exact hc (by simpa using hx)
        · exact ih h i hi

theorem allocatedCC_eq {a : Alloc} {x : String} {i : Nat} (hci : Claims a x i) (huniq : ∀ j, Claims a x j → j = i) {l : List Nat}
    (hi : i ∈ l) : a.allocatedCC x l = some i := by
  cases h : a.allocatedCC x l with
  | none => exact absurd hci (allocatedCC_none l h i hi)
  | some j => rw [huniq j (allocatedCC_some l h)]

theorem releaseNode_unclaimed {a : Alloc} {x : String} (ls : Labels) (cs : List Cidr) (h : ∀ i, ¬ Claims a x i) :
    a.releaseNode x ls cs = (a, false) := by
  unfold Alloc.releaseNode
  cases hcc : a.allocatedCC x (a.ordered ls false) with
  | none => rfl
  | some i => exact absurd (allocatedCC_some _ hcc) (h i)

/-- `ReleaseCIDR` of an associated node, exactly.  The hypotheses are what `Inv` knows of such a node: `uniq`, `obj.elig`,
`own` (with `obj.coh`, for the object the release is made with). -/
theorem releaseNode_exact {a : Alloc} (ha : a.WF) {x : String} {ls : Labels} {cs : List Cidr} {i : Nat}
    (hci : Claims a x i) (huniq : ∀ j, Claims a x j → j = i) (hel : Elig a i ls) (hin : ∀ cd ∈ cs, UsedAt a i cd) :
    ∃ a', a.releaseNode x ls cs = (a', true) ∧ a'.WF ∧ (RangesDisj a → RangesDisj a') ∧
      (∀ y j, Claims a' y j ↔ Claims a y j ∧ y ≠ x) ∧
      (∀ j cd, UsedAt a' j cd ↔ UsedAt a j cd ∧ ¬ (j = i ∧ cd ∈ cs)) ∧
      (∀ j ls, Elig a' j ls ↔ Elig a j ls) := by
  obtain ⟨a1, hra, hwf1, hle1, hu1⟩ := releaseAll_exact i cs a ha fun cd hcd => usedAt_isBlock ha (hin cd hcd)
  obtain ⟨c1, hg1, hx1⟩ := (claims_le hle1 x i).mp hci
  refine ⟨a1.set i (c1.delAssoc x), ?_, ?_, ?_, fun y j => ?_, fun j cd => ?_, fun j ls => ?_⟩
  · simp only [Alloc.releaseNode, allocatedCC_eq hci huniq (mem_ordered_false_of_elig hel), hra, hg1]
  · exact Alloc.WF_set hwf1 (fun g p hp => hwf1 i c1 hg1 g p (delAssoc_pool c1 x g ▸ hp))
  · exact fun hr => rangesDisj_set_pools hg1 (delAssoc_pool c1 x) (rangesDisj_ge hle1 hr)
  · rw [claims_delAssoc hg1, ← claims_le hle1]
    exact ⟨fun ⟨h, hn⟩ => ⟨h, fun e => hn ⟨e, huniq j (e ▸ h)⟩⟩, fun ⟨h, hn⟩ => ⟨h, fun e => hn e.1⟩⟩
  · rw [usedAt_set_pools hg1 (delAssoc_pool c1 x), hu1]
  · rw [elig_set_static (c' := c1.delAssoc x) hg1 rfl rfl]
    exact ⟨elig_le hle1, elig_ge hle1⟩

theorem occupyList_head_fails {c : CC} (hc : c.WF) {cd : Cidr} (hcd : cd.WF) (rest : List Cidr)
    (hdis : ∀ p, c.pool cd.fam = some p → cd.Disjoint p.geo.range) : c.occupyList (cd :: rest) = (c, false) := by
  have : c.occupy cd = none := by
    cases h : c.occupy cd with
    | none => rfl
    | some c' =>
      obtain ⟨p, p', hp, ho, _⟩ := CC.occupy_eq_some.mp h
      have hok := hc _ p hp
      rw [((C14.occupy_refines hok.supported hok.inv hcd).1).mpr (Or.inr (hdis p hp))] at ho
      cases ho
  unfold CC.occupyList
  rw [this]

theorem occupyList_other_refuses {a : Alloc} (ha : a.WF) (hrd : RangesDisj a) {j i₀ : Nat} {c c₀ : CC} (hj : j ≠ i₀)
    (hg : a.get? j = some c) (hg0 : a.get? i₀ = some c₀) {cd0 : Cidr} (hblk : IsBlock c₀ cd0) (rest0 : List Cidr) :
    c.occupyList (cd0 :: rest0) = (c, false) := by
  obtain ⟨p0, k0, hp0, hk0, rfl⟩ := hblk
  obtain ⟨_, hw0, hsub⟩ := C13.block_is_ith_subrange (ha i₀ c₀ hg0 _ p0 hp0).supported hk0
  exact occupyList_head_fails (ha j c hg) hw0 rest0 fun p hp =>
    Cidr.disjoint_of_sub hsub (hrd j i₀ c c₀ _ p p0 hg hg0 hp hp0 hj)

/-- the walk passes an entry other than the one whose blocks the CIDRs are without a trace: no entry there, or one that
refuses the first CIDR and is put back as it was -/
theorem occupyNode_skip {a : Alloc} (ha : a.WF) (hrd : RangesDisj a) {j i₀ : Nat} {c₀ : CC} (hj : j ≠ i₀)
    (hg0 : a.get? i₀ = some c₀) {cidrs : List Cidr} (hne : cidrs ≠ []) (hblk : ∀ cd ∈ cidrs, IsBlock c₀ cd) (name : String)
    (rest : List Nat) : a.occupyNode name cidrs (j :: rest) = a.occupyNode name cidrs rest := by
  rw [Alloc.occupyNode]
  cases hg : a.get? j with
  | none => rfl
  | some c =>
    obtain ⟨cd0, rest0, rfl⟩ := List.exists_cons_of_ne_nil hne
    simp only [occupyList_other_refuses ha hrd hj hg hg0 (hblk cd0 (List.mem_cons_self ..)) rest0, Alloc.set_self a j c hg]

/-- not only the used set: `occupyIdx` returns the pool itself, and `usage` is `count` already -/
theorem occupy_used_block {f : Fam} {p : Pool} (hp : PoolOK f p) {k : Nat} (hk : k ∈ p.used) :
    p.occupy (goBlock p.geo k) = some p := by
  rw [C14.occupy_block hp.supported (hp.inv.bound k hk), Pool.occupyIdx, if_pos hk]
  exact congrArg some (Pool.publish_eq hp.inv.usage_eq)

theorem occupyList_noop : ∀ (cs : List Cidr) (c : CC), c.WF → (∀ cd ∈ cs, InUse c cd) → c.occupyList cs = (c, true) := by
  intro cs
  induction cs with
  | nil => exact fun _ _ _ => rfl
  | cons cd rest ih =>
    intro c hc hall
    obtain ⟨p, k, hp, hk, hb⟩ := hall cd (List.mem_cons_self ..)
    have hco : c.occupy cd = some c := by
      rw [CC.occupy_of_pool rfl hp (hb ▸ occupy_used_block (hc _ p hp) hk), CC.setPool_self c cd.fam p hp]
    unfold CC.occupyList
    rw [hco]
    exact ih c hc fun cd2 h2 => hall cd2 (List.mem_cons_of_mem _ h2)

/-- The entry the node is associated with takes everything and changes nothing (`occupyList_noop`), the walk passes every
other entry (`occupyNode_skip`): it returns the state it was given, counters included. -/
theorem occupyNode_noop (name : String) (cidrs : List Cidr) (i₀ : Nat) (hne : cidrs ≠ []) (a : Alloc) (ha : a.WF)
    (hrd : RangesDisj a) (hcl : Claims a name i₀) (hused : ∀ cd ∈ cidrs, UsedAt a i₀ cd) :
    ∀ (l : List Nat), (a.occupyNode name cidrs l).1 = a := by
  obtain ⟨c, hg, hx⟩ := hcl
  intro l
  induction l with
  | nil => rfl
  | cons j rest ih =>
    by_cases hj : j = i₀
    · subst hj
      have hassoc : c.addAssoc name = c := by unfold CC.addAssoc; rw [if_pos (by simpa using hx)]
      rw [Alloc.occupyNode]
      simp only [hg, occupyList_noop cidrs c (ha j c hg) fun cd hcd => (Alloc.at_self hg _).mp (usedAt_iff.mp (hused cd hcd)),
        hassoc, Alloc.set_self a j c hg]
    · rw [occupyNode_skip ha hrd hj hg hne fun cd hcd => (Alloc.at_self hg _).mp (usedAt_isBlock ha (hused cd hcd))]
      exact ih

theorem term_pool (c : CC) (t : Bool) (g : Fam) : ({ c with term := t } : CC).pool g = c.pool g := by cases g <;> rfl

theorem usedAt_append {a : Alloc} {c : CC} (hc : ∀ f p, c.pool f = some p → p.used = []) {j : Nat} {cd : Cidr}
    (hu : UsedAt ⟨a.ccs ++ [c]⟩ j cd) : UsedAt a j cd := by
  obtain ⟨d, p, k, hd, hp, hk, hbk⟩ := hu
  rcases Alloc.get?_append hd with hd | rfl
  · exact ⟨d, p, k, hd, hp, hk, hbk⟩
  · rw [hc _ p hp] at hk; cases hk

end Safety
end Ipam
