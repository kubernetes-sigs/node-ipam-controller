import IpamVerif.ApiLemmas
/-!
# Start-up, loop by loop

`boot` is three loops — map the listed ClusterCIDRs (`bootCCs`), occupy the service ranges, occupy the pod CIDRs of the
listed nodes (`bootNodes`) — after which the caches are filled from the API.  What every round of a loop keeps, the
loop keeps (`bootCCs_induct`, `filterAll_induct`, `bootNodes_induct`; for a property of the map through all three,
`boot_alloc_induct`).  `bootCCs` writes the map and the ClusterCIDR objects only (`bootCCs_rest`), which gives the
state after `boot` field by field (`boot_alloc`, `boot_ccs`, `boot_nodes`, `boot_nodeQ`, …).
-/
namespace Ipam

theorem createClusterCIDR_rest (s : Sys) (o : CCObj) (t : Bool) (w : WOut) :
    (createClusterCIDR s o t w).1 =
      { s with alloc := (createClusterCIDR s o t w).1.alloc,
               api := { s.api with ccs := (createClusterCIDR s o t w).1.api.ccs } } := by
  unfold createClusterCIDR
  split
  · rfl
  · simp only; rw [attemptUpdate_rest]

theorem bootCCs_induct {P : Sys → Prop} {l : List CCObj}
    (step : ∀ t o w, o ∈ l → P t → P (createClusterCIDR t o (decide (o.generation > 1)) w).1) :
    ∀ (t : Sys) (ws : List WOut) (acc : List (String × List String × String)), P t → P (bootCCs t l ws acc).1 := by
  induction l with
  | nil => intro t _ _ h; exact h
  | cons o rest ih =>
    intro t ws acc h
    exact ih (fun t o' w ho' => step t o' w (List.mem_cons_of_mem _ ho')) _ _ _ (step t o _ (List.mem_cons_self ..) h)

theorem filterAll_induct {P : Alloc → Prop} {svcs : List Cidr} (step : ∀ al sv, sv ∈ svcs → P al → P (al.filterService sv)) :
    ∀ al : Alloc, P al → P (svcs.foldl (fun a sv => a.filterService sv) al) := by
  induction svcs with
  | nil => intro al h; exact h
  | cons sv rest ih =>
    intro al h
    exact ih (fun al sv' hs => step al sv' (List.mem_cons_of_mem _ hs)) _ (step al sv (List.mem_cons_self ..) h)

theorem bootNodes_induct {P : Alloc → Prop} {l : List NodeObj}
    (step : ∀ al n, n ∈ l → n.hasCidrs = true → n.deleting = false → P al → P (occupyCIDRs al n).1) :
    ∀ al : Alloc, P al → P (bootNodes al l) := by
  induction l with
  | nil => intro al h; exact h
  | cons n rest ih =>
    intro al h
    have ih' := ih fun al n' hn' => step al n' (List.mem_cons_of_mem _ hn')
    unfold bootNodes
    by_cases hc : (!n.hasCidrs || n.deleting) = true
    · rw [if_pos hc]; exact ih' al h
    · rw [if_neg hc]
      simp only [Bool.or_eq_true, Bool.not_eq_eq_eq_not, Bool.not_true, not_or, Bool.not_eq_false, Bool.not_eq_true] at hc
      exact ih' _ (step al n (List.mem_cons_self ..) hc.1 hc.2 h)

theorem bootCCs_rest (l : List CCObj) (t : Sys) (ws : List WOut) (acc : List (String × List String × String)) :
    (bootCCs t l ws acc).1 =
      { t with alloc := (bootCCs t l ws acc).1.alloc, api := { t.api with ccs := (bootCCs t l ws acc).1.api.ccs } } := by
  refine bootCCs_induct (P := fun t' => t' = { t with alloc := t'.alloc, api := { t.api with ccs := t'.api.ccs } })
    (fun t' o w _ h => ?_) t ws acc rfl
  rw [createClusterCIDR_rest, h]

/-- the controller as `boot` starts on it -/
abbrev bootStart (s : Sys) (svcs : List Cidr) : Sys :=
  { s with alloc := ⟨[]⟩, nodeView := [], ccView := [], nodeQ := [], ccQ := [], svcs := svcs }

/-- `boot` with its `let (s1, writes) := bootCCs …` read through projections.  The field lemmas below rewrite with this
equation: each of them would otherwise unfold `boot` anew, at the price this pays once. -/
theorem boot_eq (s : Sys) (svcs : List Cidr) (ws : List WOut) : boot s svcs ws =
    (let r := bootCCs (bootStart s svcs) (sortCCObjs s.api.ccs) ws []
     ({ r.1 with alloc := bootNodes (svcs.foldl (fun a sv => a.filterService sv) r.1.alloc) (sortNodeObjs s.api.nodes),
                 nodeView := r.1.api.nodes, ccView := r.1.api.ccs,
                 nodeQ := sortNames (r.1.api.nodes.map (·.name)), ccQ := sortNames (r.1.api.ccs.map (·.name)) },
      { res := "ok", ccWrites := r.2 })) := rfl

theorem boot_alloc (s : Sys) (svcs : List Cidr) (ws : List WOut) :
    (boot s svcs ws).1.alloc = bootNodes (svcs.foldl (fun a sv => a.filterService sv)
      (bootCCs (bootStart s svcs) (sortCCObjs s.api.ccs) ws []).1.alloc) (sortNodeObjs s.api.nodes) := by rw [boot_eq]

theorem boot_ccs (s : Sys) (svcs : List Cidr) (ws : List WOut) :
    (boot s svcs ws).1.api.ccs = (bootCCs (bootStart s svcs) (sortCCObjs s.api.ccs) ws []).1.api.ccs := by rw [boot_eq]

theorem boot_ccView (s : Sys) (svcs : List Cidr) (ws : List WOut) : (boot s svcs ws).1.ccView = (boot s svcs ws).1.api.ccs := by
  rw [boot_eq]

theorem boot_nodes (s : Sys) (svcs : List Cidr) (ws : List WOut) : (boot s svcs ws).1.api.nodes = s.api.nodes := by
  rw [boot_eq]; dsimp only; rw [bootCCs_rest]

theorem boot_graves (s : Sys) (svcs : List Cidr) (ws : List WOut) : (boot s svcs ws).1.api.graves = s.api.graves := by
  rw [boot_eq]; dsimp only; rw [bootCCs_rest]

theorem boot_nodeView (s : Sys) (svcs : List Cidr) (ws : List WOut) : (boot s svcs ws).1.nodeView = s.api.nodes := by
  rw [← boot_nodes s svcs ws, boot_eq]

theorem boot_nodeQ (s : Sys) (svcs : List Cidr) (ws : List WOut) :
    (boot s svcs ws).1.nodeQ = sortNames ((boot s svcs ws).1.nodeView.map (·.name)) := by rw [boot_eq]

theorem boot_ccQ (s : Sys) (svcs : List Cidr) (ws : List WOut) :
    (boot s svcs ws).1.ccQ = sortNames ((boot s svcs ws).1.ccView.map (·.name)) := by rw [boot_eq]

theorem boot_svcs (s : Sys) (svcs : List Cidr) (ws : List WOut) : (boot s svcs ws).1.svcs = svcs := by
  rw [boot_eq]; dsimp only; rw [bootCCs_rest]

theorem boot_alloc_induct {P : Alloc → Prop} (h0 : P ⟨[]⟩)
    (hcc : ∀ (t : Sys) o b w, P t.alloc → P (createClusterCIDR t o b w).1.alloc)
    (hsvc : ∀ al sv, P al → P (al.filterService sv)) (hocc : ∀ al n, P al → P (occupyCIDRs al n).1)
    (s : Sys) (svcs : List Cidr) (ws : List WOut) : P (boot s svcs ws).1.alloc := by
  rw [boot_alloc]
  refine bootNodes_induct (fun al n _ _ _ => hocc al n) _ (filterAll_induct (fun al sv _ => hsvc al sv) _ ?_)
  exact bootCCs_induct (P := fun t => P t.alloc) (fun t o w _ h => hcc t o _ w h) _ _ _ h0

end Ipam
