import IpamVerif.Safety
import IpamVerif.StepLemmas
import IpamVerif.Shape
import IpamVerif.OnePer
import IpamVerif.Tight
import IpamVerif.BootBasics
/-!
# Restarts inside the fragment (C03, C01 across restarts)

`Safety.lean` and `Tight.lean` prove the invariant `Inv` for histories without a restart.  Here the controller may be stopped and
started again at any instant.  The new incarnation rebuilds its pools from the ClusterCIDR objects and records the
pod CIDRs of the listed nodes; to know that every existing holder is recorded again we need to know that the
entry it was served from can be rebuilt: `CCI` ties every mapped entry to an API object that yields the same
shape (selector, name, pool geometries).  Every clause of `CCI` speaks of one name, and every event changes API, cache
and entries under one name (`CCAt`, `CCI.update`; `cci_step`).  After `boot` the node loop's invariant `BN` for the
whole list of nodes describes the map exactly (`boot_exact`), and `Inv` holds of any state so described
(`inv_of_exact`): that is `inv_boot`.  `inv3_step` / `inv3_run` give the history theorem.
-/
namespace Ipam.Restart
open Ipam.Safety Ipam.Shape

/-- the entry `reconcileCreate` / `reconcileBootstrap` builds from an object (not terminating) -/
def builtFrom (o : CCObj) : Option CC :=
  match selectorOf o.spec.sel with
  | none => none
  | some reqs => buildCC (printSel reqs) reqs o.name o.spec false

abbrev ShapeT := String × List Req × String × Option Geo × Option Geo
def shName (x : ShapeT) : String := x.2.2.1

theorem shName_sh (c : CC) : shName (sh c) = c.name := rfl

theorem buildCC_name {key : String} {reqs : List Req} {name : String} {spec : CCSpec} {t : Bool} {c : CC}
    (h : buildCC key reqs name spec t = some c) : c.name = name ∧ c.key = key ∧ c.reqs = reqs ∧ c.term = t ∧ c.assoc = [] := by
  obtain ⟨_, _, _, _, _, rfl⟩ := buildCC_eq_some h
  exact ⟨rfl, rfl, rfl, rfl, rfl⟩

theorem builtFrom_name {o : CCObj} {c : CC} (h : builtFrom o = some c) : c.name = o.name ∧ c.term = false ∧ c.assoc = [] := by
  unfold builtFrom at h
  split at h
  · cases h
  · obtain ⟨h1, _, _, h4, h5⟩ := buildCC_name h; exact ⟨h1, h4, h5⟩

theorem builtFrom_congr {o o' : CCObj} (hn : o'.name = o.name) (hs : o'.spec = o.spec) : builtFrom o' = builtFrom o := by
  unfold builtFrom; rw [hn, hs]

theorem builtFrom_eq {o : CCObj} {reqs : List Req} (hsel : selectorOf o.spec.sel = some reqs) :
    builtFrom o = buildCC (printSel reqs) reqs o.name o.spec false := by
  unfold builtFrom; rw [hsel]

/-- the ClusterCIDR side of the invariant, over the components it talks about -/
structure CCI (api view : List CCObj) (al : Alloc) : Prop where
  ent : ∀ x ∈ SH al, ∃ o c0, getCC api (shName x) = some o ∧ builtFrom o = some c0 ∧ x = sh c0
  gen : ∀ n o, getCC api n = some o → o.generation ≤ 1
  viewSpec : ∀ n v o, getCC view n = some v → getCC api n = some o → v.spec = o.spec
  viewLive : ∀ n v, getCC view n = some v → v.deleting = false → ∃ o, getCC api n = some o
  delFin : ∀ n o, getCC api n = some o → o.deleting = true → o.finalizers ≠ []

/-- the clauses of `CCI` at the name `n`; `oa`, `ov` are what the API and the cache hold under it -/
structure CCAt (n : String) (oa ov : Option CCObj) (al : Alloc) : Prop where
  ent : ∀ x ∈ SH al, shName x = n → ∃ o c0, oa = some o ∧ builtFrom o = some c0 ∧ x = sh c0
  gen : ∀ o, oa = some o → o.generation ≤ 1
  viewSpec : ∀ v o, ov = some v → oa = some o → v.spec = o.spec
  viewLive : ∀ v, ov = some v → v.deleting = false → ∃ o, oa = some o
  delFin : ∀ o, oa = some o → o.deleting = true → o.finalizers ≠ []

theorem cci_iff {api view : List CCObj} {al : Alloc} : CCI api view al ↔ ∀ n, CCAt n (getCC api n) (getCC view n) al :=
  ⟨fun h n => ⟨fun x hx hn => hn ▸ h.ent x hx, h.gen n, h.viewSpec n, h.viewLive n, h.delFin n⟩,
   fun h => ⟨fun x hx => (h _).ent x hx rfl, fun n => (h n).gen, fun n => (h n).viewSpec, fun n => (h n).viewLive,
     fun n => (h n).delFin⟩⟩

theorem CCI.at {api view : List CCObj} {al : Alloc} (h : CCI api view al) (n : String) : CCAt n (getCC api n) (getCC view n) al :=
  cci_iff.mp h n

theorem CCAt.alloc {n : String} {oa ov : Option CCObj} {al al' : Alloc} (h : CCAt n oa ov al)
    (hs : ∀ x ∈ SH al', shName x = n → x ∈ SH al) : CCAt n oa ov al' :=
  ⟨fun x hx hn => h.ent x (hs x hx hn) hn, h.gen, h.viewSpec, h.viewLive, h.delFin⟩

/-- every clause of `CCI` speaks of one name: it is enough to look at the name `m` under which API, cache or entries changed -/
theorem CCI.update {api view api' view' : List CCObj} {al al' : Alloc} (h : CCI api view al) (m : String)
    (hapi : ∀ n, n ≠ m → getCC api' n = getCC api n) (hview : ∀ n, n ≠ m → getCC view' n = getCC view n)
    (hal : ∀ x ∈ SH al', shName x ≠ m → x ∈ SH al) (hm : CCAt m (getCC api' m) (getCC view' m) al') : CCI api' view' al' :=
  cci_iff.mpr fun n =>
    if hn : n = m then hn ▸ hm
    else by rw [hapi n hn, hview n hn]; exact (h.at n).alloc fun x hx hxn => hal x hx (hxn ▸ hn)

theorem CCAt.touch {n : String} {o o' : CCObj} {ov : Option CCObj} {al : Alloc} (h : CCAt n (some o) ov al)
    (hn : o'.name = o.name) (hs : o'.spec = o.spec) (hg : o'.generation = o.generation)
    (hd : o'.deleting = true → o'.finalizers ≠ []) : CCAt n (some o') ov al := by
  refine ⟨fun x hx hxn => ?_, fun _ e => ?_, fun v _ hv e => ?_, fun _ _ _ => ⟨o', rfl⟩, fun _ e => ?_⟩
  · obtain ⟨_, c0, e, hb, hx⟩ := h.ent x hx hxn
    cases e; exact ⟨o', c0, rfl, builtFrom_congr hn hs ▸ hb, hx⟩
  · cases e; exact hg ▸ h.gen o rfl
  · cases e; exact hs ▸ h.viewSpec v o hv rfl
  · cases e; exact hd

theorem CCAt.gone {n : String} {ov : Option CCObj} {al : Alloc} (hent : ∀ x ∈ SH al, shName x ≠ n)
    (hview : ∀ v, ov = some v → v.deleting = true) : CCAt n none ov al :=
  ⟨fun x hx hn => absurd hn (hent x hx), fun _ e => (nomatch e), fun _ _ _ e => (nomatch e),
    fun v hv hd => (by rw [hview v hv] at hd; cases hd), fun _ e => (nomatch e)⟩

theorem CCAt.new {n : String} {al : Alloc} (h : CCAt n none none al) {o : CCObj} (hg : o.generation ≤ 1) (hd : o.deleting = false) :
    CCAt n (some o) none al :=
  ⟨fun x hx hn => (by obtain ⟨_, _, e, _⟩ := h.ent x hx hn; cases e), fun _ e => (by cases e; exact hg),
    fun _ _ e => (nomatch e), fun _ e => (nomatch e),
    fun _ e hdel => (by cases e; rw [hd] at hdel; cases hdel)⟩

theorem CCAt.view {n : String} {oa ov ov' : Option CCObj} {al : Alloc} (h : CCAt n oa ov al) (hv : ov' = oa ∨ ov' = none) :
    CCAt n oa ov' al := by
  refine ⟨h.ent, h.gen, fun v o e1 e2 => ?_, fun v e _ => ?_, h.delFin⟩ <;> rcases hv with rfl | rfl
  · rw [e1] at e2; cases e2; rfl
  · cases e1
  · exact ⟨v, e⟩
  · cases e

theorem cci_api_put {api view : List CCObj} {al : Alloc} (h : CCI api view al) (o o' : CCObj)
    (ho : getCC api o.name = some o) (hn : o'.name = o.name) (hs : o'.spec = o.spec) (hg : o'.generation = o.generation)
    (hd : o'.deleting = true → o'.finalizers ≠ []) : CCI (putCC api o') view al :=
  h.update o.name (fun _ hx => getCC_putCC_ne _ _ (hn ▸ hx)) (fun _ _ => rfl) (fun _ hx _ => hx)
    (by rw [← hn, getCC_putCC_self, hn]; exact (ho ▸ h.at o.name).touch hn hs hg hd)

theorem cci_api_del {api view : List CCObj} {al : Alloc} (h : CCI api view al) (name : String)
    (hent : ∀ x ∈ SH al, shName x ≠ name) (hview : ∀ v, getCC view name = some v → v.deleting = true) :
    CCI (delCC api name) view al :=
  h.update name (fun _ hx => getCC_delCC_ne _ hx) (fun _ _ => rfl) (fun _ hx _ => hx)
    (by rw [getCC_delCC_self]; exact .gone hent hview)

theorem cci_api_add {api view : List CCObj} {al : Alloc} (h : CCI api view al) (o : CCObj)
    (hapi : getCC api o.name = none) (hview : getCC view o.name = none) (hg : o.generation ≤ 1) (hd : o.deleting = false) :
    CCI (api ++ [o]) view al :=
  h.update o.name (fun _ hx => getCC_append_ne _ _ hx) (fun _ _ => rfl) (fun _ hx _ => hx)
    (by rw [getCC_append_self api o hapi, hview]; exact (hview ▸ hapi ▸ h.at o.name).new hg hd)

theorem cci_view_put {api view : List CCObj} {al : Alloc} (h : CCI api view al) (cur : CCObj)
    (hc : getCC api cur.name = some cur) : CCI api (putCC view cur) al :=
  h.update cur.name (fun _ _ => rfl) (fun _ hx => getCC_putCC_ne _ _ hx) (fun _ hx _ => hx)
    ((h.at cur.name).view (Or.inl (by rw [getCC_putCC_self, hc])))

theorem cci_view_del {api view : List CCObj} {al : Alloc} (h : CCI api view al) (name : String) :
    CCI api (delCC view name) al :=
  h.update name (fun _ _ => rfl) (fun _ hx => getCC_delCC_ne _ hx) (fun _ hx _ => hx)
    ((h.at name).view (Or.inr (getCC_delCC_self view name)))

theorem cci_alloc_sub {api view : List CCObj} {al al' : Alloc} (h : CCI api view al) (hs : ∀ x ∈ SH al', x ∈ SH al) : CCI api view al' :=
  ⟨fun x hx => h.ent x (hs x hx), h.gen, h.viewSpec, h.viewLive, h.delFin⟩

theorem cci_alloc {api view : List CCObj} {al al' : Alloc} (h : CCI api view al) (hs : SH al' = SH al) : CCI api view al' :=
  cci_alloc_sub h fun _ hx => hs ▸ hx

theorem sh_term (c : CC) (t : Bool) : sh { c with term := t } = sh c := rfl

theorem kn_of_sh {c d : CC} (h : sh c = sh d) : c.key = d.key ∧ c.name = d.name ∧ c.reqs = d.reqs := by
  unfold sh at h
  simp only [Prod.mk.injEq] at h
  exact ⟨h.1, h.2.2.1, h.2.1⟩

theorem mem_SH {a : Alloc} {x : ShapeT} : x ∈ SH a ↔ ∃ c ∈ a.ccs, sh c = x := by
  unfold SH; exact List.mem_map

/-- the in-memory part of `reconcileDelete` -/
theorem cci_deleteCC {api view : List CCObj} {al : Alloc} (h : CCI api view al) (hone : OnePer.NoDupKN al)
    (o : CCObj) (hv : getCC view o.name = some o) :
    CCI api view (al.deleteCC o.name o.spec).1 ∧
    (((al.deleteCC o.name o.spec).2 = .removed ∨ (al.deleteCC o.name o.spec).2 = .notFound) →
      ∀ x ∈ SH (al.deleteCC o.name o.spec).1, shName x ≠ o.name) := by
  unfold Alloc.deleteCC
  cases hsel : selectorOf o.spec.sel with
  | none => exact ⟨h, fun hr => by rcases hr with hr | hr <;> cases hr⟩
  | some reqs =>
    -- every entry carrying the name has the key of the cached object: it is built from the API object of that name,
    -- whose spec the cached object shares
    have hkey : ∀ d ∈ al.ccs, d.name = o.name → d.key = printSel reqs := by
      intro d hd hdn
      obtain ⟨oa, c0, h1, h2, h3⟩ := h.ent (sh d) (mem_SH.mpr ⟨d, hd, rfl⟩)
      rw [shName_sh, hdn] at h1
      rw [builtFrom_eq ((h.viewSpec _ o oa hv h1) ▸ hsel)] at h2
      rw [(kn_of_sh h3).1, (buildCC_name h2).2.1]
    have hnone : ∀ l : List CC, (∀ d ∈ l, d ∈ al.ccs) → (∀ d ∈ l, ¬ (d.key = printSel reqs ∧ d.name = o.name)) →
        ∀ x ∈ SH ⟨l⟩, shName x ≠ o.name := by
      intro l hsub hno x hx hxn
      obtain ⟨d, hd, rfl⟩ := mem_SH.mp hx
      exact hno d hd ⟨hkey d (hsub d hd) hxn, hxn⟩
    rcases delFirst_spec (printSel reqs) o.name al.ccs with
      ⟨h1, h2⟩ | ⟨pre, c, post, hl, hck, hcn, hpre, ⟨_, h1⟩ | ⟨_, h1⟩⟩ <;> simp only [h1]
    · exact ⟨h, fun _ => hnone al.ccs (fun _ hd => hd) h2⟩
    · exact ⟨cci_alloc h (by simp [SH, hl, sh_term]), fun hr => by rcases hr with hr | hr <;> cases hr⟩
    · have hsub : ∀ d ∈ pre ++ post, d ∈ al.ccs := fun d hd => by
        rw [hl]
        exact (List.mem_append.mp hd).elim (List.mem_append_left _) fun hm => List.mem_append_right _ (List.mem_cons_of_mem _ hm)
      refine ⟨cci_alloc_sub h fun x hx => ?_, fun _ => hnone _ hsub fun d hd hdk => ?_⟩
      · obtain ⟨d, hd, rfl⟩ := mem_SH.mp hx; exact mem_SH.mpr ⟨d, hsub d hd, rfl⟩
      · rcases List.mem_append.mp hd with hm | hm
        · exact hpre d hm hdk
        · -- a second entry with the pair: excluded by "one entry per object"
          have hnd : ((pre ++ c :: post).map OnePer.kn).Nodup := hl ▸ hone
          rw [List.map_append, List.map_cons] at hnd
          exact (List.nodup_cons.mp (List.nodup_append.mp hnd).2.1).1
            (List.mem_map.mpr ⟨d, hm, by unfold OnePer.kn; rw [hdk.1, hdk.2, hck, hcn]⟩)

/-- mapping an object whose API counterpart has the same spec -/
theorem cci_createCC {api view : List CCObj} {al al' : Alloc} (h : CCI api view al) (o oa : CCObj) (t : Bool)
    (hoa : getCC api o.name = some oa) (hspec : oa.spec = o.spec)
    (hc : al.createCC o.name o.spec t = some al') :
    CCI api view al' ∧ (∀ x ∈ SH al, x ∈ SH al') ∧ (∀ c0, builtFrom o = some c0 → sh c0 ∈ SH al') ∧
      (∀ c ∈ al'.ccs, c ∈ al.ccs ∨ (c.assoc = [] ∧ c.term = t ∧ ∀ f p, c.pool f = some p → p.used = [])) := by
  have hbf : builtFrom oa = builtFrom o := builtFrom_congr (mem_of_getCC hoa).2 hspec
  obtain ⟨reqs, hsel, ⟨hm, rfl⟩ | ⟨_, c, hb, rfl⟩⟩ := Alloc.createCC_eq_some hc
  · -- already mapped: the entry found and what `o` builds are both built from the API object `oa`
    obtain ⟨d, hd, _, hdn⟩ := Alloc.mapped_iff.mp hm
    refine ⟨h, fun _ hx => hx, fun c0 hc0 => ?_, fun c hc => Or.inl hc⟩
    obtain ⟨ob, c1, h1, h2, h3⟩ := h.ent (sh d) (mem_SH.mpr ⟨d, hd, rfl⟩)
    rw [shName_sh, hdn, hoa] at h1; cases h1
    rw [hbf, hc0] at h2; cases h2
    exact h3 ▸ mem_SH.mpr ⟨d, hd, rfl⟩
  · -- appended: `c` is what `o` builds, up to the flag
    have hc0 : builtFrom o = some { c with term := false } := by
      rw [builtFrom_eq hsel, buildCC_term _ _ _ _ false t, hb]; rfl
    obtain ⟨hcn, _, _, hct, hca⟩ := buildCC_name hb
    have hSH : SH ⟨al.ccs ++ [c]⟩ = SH al ++ [sh c] := by simp [SH]
    refine ⟨⟨fun x hx => ?_, h.gen, h.viewSpec, h.viewLive, h.delFin⟩, fun x hx => hSH ▸ List.mem_append_left _ hx,
      fun c1 hc1 => ?_, fun d hd => ?_⟩
    · rcases List.mem_append.mp (hSH ▸ hx) with hx | hx
      · exact h.ent x hx
      · cases List.mem_singleton.mp hx
        exact ⟨oa, { c with term := false }, by rw [shName_sh, hcn]; exact hoa, hbf ▸ hc0, rfl⟩
    · rw [hc0] at hc1; cases hc1
      exact hSH ▸ List.mem_append_right _ (List.mem_singleton.mpr rfl)
    · rcases List.mem_append.mp hd with hd | hd
      · exact Or.inl hd
      · cases List.mem_singleton.mp hd; exact Or.inr ⟨hca, hct, buildCC_unused hb⟩

/-- the write of a ClusterCIDR item: if it can remove the object (`fins = []`), no entry carries the name and the cache
shows the object as being deleted -/
theorem cci_attemptUpdate {api : Api} {view : List CCObj} {al : Alloc} (h : CCI api.ccs view al) (name : String) (rv : Nat)
    (fins : List String) (w : WOut)
    (hdel : fins = [] → (∀ x ∈ SH al, shName x ≠ name) ∧ ∀ v, getCC view name = some v → v.deleting = true) :
    CCI (attemptUpdate api name rv fins w).1.ccs view al := by
  rcases attemptUpdate_api api name rv fins w with he | ⟨_, _, _, hf, he⟩ | ⟨oa, hoa, hnd, he⟩ <;> rw [he]
  · exact h
  · exact cci_api_del h name (hdel hf).1 (hdel hf).2
  · exact cci_api_put h oa _ ((mem_of_getCC hoa).2 ▸ hoa) rfl rfl rfl fun hd hf => hnd ⟨hd, hf⟩

theorem cci_createClusterCIDR {s : Sys} (h : CCI s.api.ccs s.ccView s.alloc) (o : CCObj) (w : WOut)
    (hv : getCC s.ccView o.name = some o) (hd : o.deleting = false) (hnf : needFin o = true) :
    CCI (createClusterCIDR s o false w).1.api.ccs (createClusterCIDR s o false w).1.ccView
      (createClusterCIDR s o false w).1.alloc := by
  rcases createClusterCIDR_cases s o false w with ⟨_, e⟩ | ⟨al, fins, hc, hfins, e⟩ <;> rw [e]
  · exact h
  · obtain ⟨oa, hoa⟩ := h.viewLive _ o hv hd
    refine cci_attemptUpdate (cci_createCC h o oa false hoa (h.viewSpec _ o oa hv hoa).symm hc).1 _ _ _ _ fun hf => ?_
    rw [hfins, if_pos hnf] at hf; simp at hf

theorem cci_reconcileDelete {s : Sys} (h : CCI s.api.ccs s.ccView s.alloc) (hone : OnePer.NoDupKN s.alloc) (o : CCObj) (w : WOut)
    (hv : getCC s.ccView o.name = some o) (hd : o.deleting = true) :
    CCI (reconcileDelete s o w).1.api.ccs (reconcileDelete s o w).1.ccView (reconcileDelete s o w).1.alloc := by
  obtain ⟨h1, h2⟩ := cci_deleteCC h hone o hv
  rcases reconcileDelete_cases s o w with ⟨_, e⟩ | ⟨_, ⟨_, e⟩ | ⟨hr, fins, _, e⟩⟩ <;> rw [e]
  · exact h
  · exact h1
  · -- the object may go only when `deleteCC` found no entry or removed the only one
    exact cci_attemptUpdate h1 _ _ _ _ fun _ => ⟨h2 hr, fun v hv' => by rw [hv] at hv'; cases hv'; exact hd⟩

theorem cci_procCC {s : Sys} (h : CCI s.api.ccs s.ccView s.alloc) (hone : OnePer.NoDupKN s.alloc) (name : String) (w : WOut) :
    CCI (procCC s name w).1.api.ccs (procCC s name w).1.ccView (procCC s name w).1.alloc := by
  suffices key : CCI (procCCCore { s with ccQ := qDel s.ccQ name } name w).1.api.ccs
      (procCCCore { s with ccQ := qDel s.ccQ name } name w).1.ccView (procCCCore { s with ccQ := qDel s.ccQ name } name w).1.alloc by
    rw [procCC_eq]; exact key
  rcases procCCCore_cases { s with ccQ := qDel s.ccQ name } name w with ⟨_, e⟩ | ⟨o, hv, rfl, ⟨hd, e⟩ | ⟨hd, hnf, e⟩⟩ <;>
    rw [e]
  · exact h
  · exact cci_reconcileDelete (s := { s with ccQ := qDel s.ccQ o.name }) h hone o w hv hd
  · exact cci_createClusterCIDR (s := { s with ccQ := qDel s.ccQ o.name }) h o w hv hd hnf

/-- the fragment of `Safety.lean`, with restarts: a restart may happen at any instant, provided the ClusterCIDR
objects of that moment have ranges the theorems cover and pairwise disjoint ones.  Three exclusions come with it:
a ClusterCIDR is deleted only once the controller's finalizer is on it or before the controller has seen it at all
(finding P15 otherwise), its spec is never edited (`ccGen`: an edited ClusterCIDR is rebuilt as terminating and the
holders of its blocks are not recorded), and a ClusterCIDR name is re-used only once the cache has dropped it. -/
def Frag3 (s : Sys) : Ev → Prop
  | .boot svcs ws => (∀ sv ∈ svcs, sv.WF) ∧ (∀ o ∈ s.api.ccs, C09.SpecOK o.spec) ∧ RangesDisj (boot s svcs ws).1.alloc
  | .ccAdd name _ => getCC s.ccView name = none
  | .ccDel name => ∀ o, getCC s.api.ccs name = some o →
      hasFin o = true ∨ ((∀ c ∈ s.alloc.ccs, c.name ≠ name) ∧ getCC s.ccView name = none)
  | .ccGen _ _ => False
  | e => Frag s e

theorem cci_step {s : Sys} (h : CCI s.api.ccs s.ccView s.alloc) (hone : OnePer.NoDupKN s.alloc) (e : Ev)
    (hnb : ∀ sv ws, e ≠ .boot sv ws) (hf : Frag3 s e) :
    CCI (step s e).1.api.ccs (step s e).1.ccView (step s e).1.alloc := by
  -- what the world does to node objects touches none of the three components
  by_cases hn : e.envNode = true
  · rw [step_envNode hn]; exact h
  cases e with
  | boot sv ws => exact absurd rfl (hnb sv ws)
  | ccGen name g => exact hf.elim
  | ccAdd name spec =>
    dsimp only [step]
    cases hg : getCC s.api.ccs name with
    | some _ => exact h
    | none => exact cci_api_add h ⟨name, spec, [], false, 1, freshRv s⟩ hg hf (Nat.le_refl 1) rfl
  | ccDel name =>
    dsimp only [step]
    cases hg : getCC s.api.ccs name with
    | none => exact h
    | some o =>
      have ho : getCC s.api.ccs o.name = some o := (mem_of_getCC hg).2 ▸ hg
      simp only
      split
      · -- no finalizer at all: allowed only while nothing is mapped or cached under the name
        rename_i hemp
        rcases hf o hg with hfin | ⟨hno, hvw⟩
        · simp [hasFin, List.isEmpty_iff.mp hemp] at hfin
        · refine cci_api_del h name (fun x hx => ?_) (fun v hv => by rw [hvw] at hv; cases hv)
          obtain ⟨d, hd, rfl⟩ := mem_SH.mp hx
          exact hno d hd
      · rename_i hemp
        exact cci_api_put h o _ ho rfl rfl rfl fun _ hf' => hemp (by rw [show o.finalizers = [] from hf']; rfl)
  | ccAddFin name fin =>
    dsimp only [step]
    cases hg : getCC s.api.ccs name with
    | none => exact h
    | some o =>
      simp only
      split
      · exact h
      · exact cci_api_put h o _ ((mem_of_getCC hg).2 ▸ hg) rfl rfl rfl fun _ => by simp
  | deliverNode name tomb =>
    rcases step_deliverNode s name tomb with ⟨_, _, e⟩ | ⟨_, _, e⟩ | ⟨_, _, _, e⟩ <;> rw [e]
    · exact h
    · exact h
    · exact cci_alloc h (SH_of_frame (frame_releaseCIDR _ _))
  | deliverCC name =>
    rcases step_deliverCC s name with ⟨cur, hg, e⟩ | ⟨_, _, e⟩ | ⟨_, e⟩ <;> rw [e]
    · exact cci_view_put h cur ((mem_of_getCC hg).2 ▸ hg)
    · exact h
    · exact cci_view_del h name
  | procNode name refresh ws =>
    rcases step_procNode s name refresh ws with e | e <;> rw [e]
    · exact h
    · have hi := procNodeCore_item { s with nodeQ := qDel s.nodeQ name } name refresh ws
      have hv : (procNode s name refresh ws).1.ccView = s.ccView := by rw [procNode_eq]; exact hi.ccView
      have ha : (procNode s name refresh ws).1.api.ccs = s.api.ccs := by rw [procNode_eq]; exact hi.ccs
      rw [hv, ha]
      exact cci_alloc h (SH_of_frame (frame_procNode s name refresh ws))
  | procCC name w =>
    rcases step_procCC s name w with e | e <;> rw [e]
    · exact h
    · exact cci_procCC h hone name w
  | _ => exact absurd rfl hn

/-- loop invariant of the start-up loop over the listed ClusterCIDR objects (`bootCCs`); `a0` is what the API held at the start -/
structure BC (a0 : List CCObj) (t : Sys) : Prop where
  sim : ∀ n o0, getCC a0 n = some o0 → ∃ o, getCC t.api.ccs n = some o ∧ o.spec = o0.spec
  cci : CCI t.api.ccs [] t.alloc
  fresh : ∀ c ∈ t.alloc.ccs, c.assoc = [] ∧ c.term = false ∧ ∀ f p, c.pool f = some p → p.used = []

theorem createCC_none_builtFrom {al : Alloc} {o : CCObj} {t : Bool} (h : al.createCC o.name o.spec t = none) : builtFrom o = none := by
  cases hsel : selectorOf o.spec.sel with
  | none => unfold builtFrom; rw [hsel]
  | some reqs =>
    unfold Alloc.createCC at h
    rw [hsel] at h
    simp only at h
    split at h
    · cases h
    · rw [builtFrom_eq hsel, buildCC_term _ _ _ _ false t]
      split at h
      · rename_i hb; rw [hb]; rfl
      · cases h

/-- an Update that carries a finalizer removes no object and keeps every spec -/
theorem sim_attemptUpdate {a : Api} (name : String) (rv : Nat) {fins : List String} (w : WOut) (hfne : fins ≠ [])
    {n : String} {o0 : CCObj} (h : ∃ o, getCC a.ccs n = some o ∧ o.spec = o0.spec) :
    ∃ o, getCC (attemptUpdate a name rv fins w).1.ccs n = some o ∧ o.spec = o0.spec := by
  obtain ⟨o, hg, hs⟩ := h
  rcases attemptUpdate_api a name rv fins w with he | ⟨_, _, _, hf, _⟩ | ⟨ob, hob, _, he⟩
  · rw [he]; exact ⟨o, hg, hs⟩
  · exact absurd hf hfne
  · rw [he]
    have hn : ob.name = name := (mem_of_getCC hob).2
    by_cases hx : n = ob.name
    · rw [hx] at hg ⊢
      rw [← hn, hg] at hob; cases hob
      exact ⟨_, getCC_putCC_self a.ccs { o with finalizers := fins, rv := o.rv + 1 }, hs⟩
    · exact ⟨o, (getCC_putCC_ne a.ccs { ob with finalizers := fins, rv := ob.rv + 1 } hx).trans hg, hs⟩

theorem bc_create {a0 : List CCObj} {t : Sys} (h : BC a0 t) (o : CCObj) (ho : getCC a0 o.name = some o)
    (hg : o.generation ≤ 1) (hdf : o.deleting = true → o.finalizers ≠ []) (w : WOut) :
    BC a0 (createClusterCIDR t o (decide (o.generation > 1)) w).1 ∧
    (∀ x ∈ SH t.alloc, x ∈ SH (createClusterCIDR t o (decide (o.generation > 1)) w).1.alloc) ∧
    (∀ c0, builtFrom o = some c0 → sh c0 ∈ SH (createClusterCIDR t o (decide (o.generation > 1)) w).1.alloc) := by
  have hdec : decide (o.generation > 1) = false := by simp; omega
  rw [hdec]
  rcases createClusterCIDR_cases t o false w with ⟨hc, e⟩ | ⟨al, fins, hc, hfins, e⟩ <;> rw [e]
  · exact ⟨h, fun x hx => hx, fun c0 hc0 => by rw [createCC_none_builtFrom hc] at hc0; cases hc0⟩
  · obtain ⟨oa, hoa, hspec⟩ := h.sim _ o ho
    obtain ⟨h1, h2, h3, h4⟩ := cci_createCC h.cci o oa false hoa hspec hc
    -- the Update carries a finalizer: without any, and in no need of one, the object would be under deletion without one
    have hfne : fins ≠ [] := by
      intro hf
      rw [hfins] at hf
      split at hf
      · simp at hf
      · rename_i hnf
        exact hdf (by simpa [needFin, hasFin, hf] using hnf) hf
    exact ⟨⟨fun n o0 hn0 => sim_attemptUpdate o.name o.rv w hfne (h.sim n o0 hn0),
      cci_attemptUpdate h1 _ _ _ _ fun hf => absurd hf hfne, fun c hcm => (h4 c hcm).elim (h.fresh c) id⟩, h2, h3⟩

theorem bootCCs_spec (a0 : List CCObj) (hgen : ∀ n o, getCC a0 n = some o → o.generation ≤ 1)
    (hdf : ∀ n o, getCC a0 n = some o → o.deleting = true → o.finalizers ≠ []) :
    ∀ (l : List CCObj) (t : Sys) (ws : List WOut) (acc : List (String × List String × String)),
    BC a0 t → (∀ o ∈ l, getCC a0 o.name = some o) →
    BC a0 (bootCCs t l ws acc).1 ∧ (∀ x ∈ SH t.alloc, x ∈ SH (bootCCs t l ws acc).1.alloc) ∧
    (∀ o ∈ l, ∀ c0, builtFrom o = some c0 → sh c0 ∈ SH (bootCCs t l ws acc).1.alloc) := by
  intro l
  induction l with
  | nil => intro t ws acc h _; exact ⟨h, fun x hx => hx, fun o ho => by cases ho⟩
  | cons o rest ih =>
    intro t ws acc h hl
    unfold bootCCs
    simp only
    have ho := hl o (List.mem_cons_self ..)
    obtain ⟨b1, b2, b3⟩ := bc_create h o ho (hgen _ o ho) (hdf _ o ho) (ws.headD .ok)
    obtain ⟨c1, c2, c3⟩ := ih (createClusterCIDR t o (decide (o.generation > 1)) (ws.headD .ok)).1
      (if (createClusterCIDR t o (decide (o.generation > 1)) (ws.headD .ok)).2.ccWrites.isEmpty then ws else ws.tail)
      (acc ++ (createClusterCIDR t o (decide (o.generation > 1)) (ws.headD .ok)).2.ccWrites) b1
      (fun x hx => hl x (List.mem_cons_of_mem _ hx))
    refine ⟨c1, fun x hx => c2 x (b2 x hx), ?_⟩
    intro x hx c0 hc0
    rcases List.mem_cons.mp hx with rfl | hx
    · exact c2 _ (b3 c0 hc0)
    · exact c3 x hx c0 hc0

theorem cci_view_api {api : List CCObj} {al : Alloc} (h : CCI api [] al) : CCI api api al :=
  cci_iff.mpr fun n => (h.at n).view (Or.inl rfl)

theorem occupyList_blocks : ∀ (cs : List Cidr) (c : CC), c.WF → (∀ cd ∈ cs, IsBlock c cd) →
    ∃ c', c.occupyList cs = (c', true) ∧ CCLe c c' ∧ c'.WF ∧ ∀ cd', InUse c' cd' ↔ InUse c cd' ∨ cd' ∈ cs := by
  intro cs
  induction cs with
  | nil => exact fun c hc _ => ⟨c, rfl, CCLe.refl c, hc, fun _ => ⟨Or.inl, fun h => h.resolve_right List.not_mem_nil⟩⟩
  | cons cd rest ih =>
    intro c hc hall
    obtain ⟨c₁, hco, hwf₁, hle, hu⟩ := occupy_block hc (hall cd (List.mem_cons_self ..))
    obtain ⟨c', hr, hle', hwf', hu'⟩ := ih c₁ hwf₁ fun cd2 hcd2 => (hall cd2 (List.mem_cons_of_mem _ hcd2)).of_geo hle.geoLe
    refine ⟨c', ?_, CCLe.trans hle hle', hwf', fun cd' => by rw [hu', hu, List.mem_cons, or_assoc]⟩
    unfold CC.occupyList
    rw [hco]
    exact hr

/-- recording the pod CIDRs of a node no entry is associated with yet: if they are blocks of entry `i₀`, which is in
the list, and ranges are pairwise disjoint, exactly entry `i₀` takes them -/
theorem occupyNode_fresh (name : String) (cidrs : List Cidr) (i₀ : Nat) (hne : cidrs ≠ []) :
    ∀ (l : List Nat) (a : Alloc) (c₀ : CC), a.WF → RangesDisj a → a.get? i₀ = some c₀ → (∀ cd ∈ cidrs, IsBlock c₀ cd) → i₀ ∈ l →
      ∃ c₁, a.occupyNode name cidrs l = (a.set i₀ (c₁.addAssoc name), true) ∧ CCLe c₀ c₁ ∧ c₁.WF ∧ (∀ cd ∈ cidrs, InUse c₁ cd) ∧
        ∀ cd', InUse c₁ cd' → InUse c₀ cd' ∨ cd' ∈ cidrs := by
  intro l
  induction l with
  | nil => intro a c₀ _ _ _ _ hm; cases hm
  | cons j rest ih =>
    intro a c₀ ha hrd hg0 hblk hm
    by_cases hj : j = i₀
    · subst hj
      obtain ⟨c', hr, hle, hwf', hu⟩ := occupyList_blocks cidrs c₀ (ha j c₀ hg0) hblk
      refine ⟨c', ?_, hle, hwf', fun cd hcd => (hu cd).mpr (Or.inr hcd), fun cd' => (hu cd').mp⟩
      rw [Alloc.occupyNode]
      simp only [hg0, hr]
    · rw [occupyNode_skip ha hrd hj hg0 hne hblk]
      exact ih a c₀ ha hrd hg0 hblk ((List.mem_cons.mp hm).resolve_left (Ne.symm hj))

/-- recording a holder nobody records yet: exactly its home entry takes the CIDRs (`occupyNode_fresh`), so the three
relations move by that one association and those blocks -/
theorem occupyCIDRs_fresh {a : Alloc} (ha : a.WF) (hrd : RangesDisj a) {n : NodeObj} (hj : n.junk = false) (hne : n.cidrs ≠ [])
    {i₀ : Nat} {c : CC} (hg : a.get? i₀ = some c) (ht : c.term = false)
    (hel : (matchCIDR c.reqs n.labels).1 = true ∨ (c.key == defaultKey) = true) (hblk : ∀ cd ∈ n.cidrs, IsBlock c cd) :
    (occupyCIDRs a n).1.WF ∧
    (∀ x i, Claims (occupyCIDRs a n).1 x i ↔ Claims a x i ∨ (x = n.name ∧ i = i₀)) ∧
    (∀ j cd, UsedAt (occupyCIDRs a n).1 j cd ↔ UsedAt a j cd ∨ (j = i₀ ∧ cd ∈ n.cidrs)) ∧
    (∀ j ls, Elig (occupyCIDRs a n).1 j ls ↔ Elig a j ls) := by
  have hmem : i₀ ∈ a.ordered n.labels true := C17.mem_ordered.mpr ⟨c, hg, .inr ht, hel.imp_right beq_iff_eq.mp⟩
  obtain ⟨c₁, hocc, hle, hwf1, huse, hexact⟩ := occupyNode_fresh n.name n.cidrs i₀ hne _ a c ha hrd hg hblk hmem
  have hres : (occupyCIDRs a n).1 = a.set i₀ (c₁.addAssoc n.name) := by
    have hnemp : (a.ordered n.labels true).isEmpty = false := by
      cases hl : a.ordered n.labels true with
      | nil => rw [hl] at hmem; cases hmem
      | cons _ _ => rfl
    simp [occupyCIDRs, hnemp, hj, hocc]
  have hg2 : (a.set i₀ c₁).get? i₀ = some c₁ := Alloc.get?_set_self _ _ _ _ hg
  have hle2 : AllocLe a (a.set i₀ c₁) := allocLe_set_cc hg hle
  rw [hres, ← Alloc.set_set a i₀ c₁ (c₁.addAssoc n.name)]
  refine ⟨Alloc.WF_set (Alloc.WF_set ha hwf1) (CC.addAssoc_WF hwf1 _), fun x i => ?_, fun j cd => ?_, fun j ls => ?_⟩
  · rw [claims_addAssoc hg2, claims_le hle2]
  · -- in entry `i₀`: what was in use, and the node's CIDRs (`occupyNode_fresh`); elsewhere nothing moved
    rw [usedAt_addAssoc hg2, usedAt_iff, usedAt_iff]
    by_cases hji : j = i₀
    · subst hji
      rw [Alloc.at_set_self hg, Alloc.at_self hg]
      exact ⟨fun hu => (hexact cd hu).imp_right fun h => ⟨rfl, h⟩, fun h => h.elim (·.le hle) fun h => huse cd h.2⟩
    · rw [Alloc.at_set_ne hji]
      simp only [hji, false_and, or_false]
  · rw [elig_set_static hg2 (addAssoc_static c₁ _).1 (addAssoc_static c₁ _).2, elig_set_static hg hle.1 hle.2.1]

theorem geoLe_of_sh {c c' : CC} (h : sh c' = sh c) : c.GeoLe c' := by
  intro f p hp
  have hf : (c'.pool f).map (·.geo) = (c.pool f).map (·.geo) := by
    cases f
    · exact congrArg (·.2.2.2.1) h
    · exact congrArg (·.2.2.2.2) h
  rw [hp] at hf
  exact Option.map_eq_some_iff.mp hf

theorem rangesDisj_of_SH {a a' : Alloc} (h : SH a = SH a') (hr : RangesDisj a) : RangesDisj a' :=
  rangesDisj_of_geo (fun _ _ hj => let ⟨c, hc, hs⟩ := Alloc.get?_of_map_eq sh h.symm hj; ⟨c, hc, geoLe_of_sh hs⟩) hr

/-- where a node's pod CIDRs belong in the rebuilt pools: an entry its labels select, of which they are blocks -/
def Home (a1 : Alloc) (v : NodeObj) : Prop :=
  ∃ i c, a1.get? i = some c ∧ ((matchCIDR c.reqs v.labels).1 = true ∨ (c.key == defaultKey) = true) ∧
    ∀ cd ∈ v.cidrs, IsBlock c cd

/-- loop invariant of the start-up loop over the listed nodes (`bootNodes`); `a1` is the rebuilt and service-filtered map it starts on -/
structure BN (a1 al : Alloc) (done : List NodeObj) (svcs : List Cidr) : Prop where
  wf : al.WF
  sh : SH al = SH a1
  nt : ∀ i c, al.get? i = some c → c.term = false
  cl : ∀ x i, Claims al x i → ∃ v ∈ done, v.name = x ∧ v.deleting = false ∧ v.cidrs ≠ [] ∧
    (∀ cd ∈ v.cidrs, UsedAt al i cd) ∧ Elig al i v.labels
  uq : ∀ x i j, Claims al x i → Claims al x j → i = j
  sv : ∀ v ∈ done, v.deleting = false → v.cidrs ≠ [] → ∃ i, Claims al v.name i
  tight : ∀ j cd, UsedAt al j cd → (∃ x, Claims al x j ∧ ∃ v ∈ done, v.name = x ∧ cd ∈ v.cidrs) ∨ (∃ svc ∈ svcs, ¬ cd.Disjoint svc)

theorem bn_step {a1 al : Alloc} {done : List NodeObj} {svcs : List Cidr} (h : BN a1 al done svcs) (hrd : RangesDisj a1) (n : NodeObj)
    (hfresh : ∀ v ∈ done, v.name ≠ n.name) (hj : n.junk = false)
    (hhome : n.deleting = false → n.cidrs ≠ [] → Home a1 n) :
    BN a1 (if (!n.hasCidrs || n.deleting) = true then al else (occupyCIDRs al n).1) (done ++ [n]) svcs := by
  have hlast : n ∈ done ++ [n] := List.mem_append_right _ (List.mem_singleton.mpr rfl)
  split
  · rename_i hskip
    refine ⟨h.wf, h.sh, h.nt, fun x i hc => ?_, h.uq, fun v hv hd hc => ?_, fun j cd hu => ?_⟩
    · obtain ⟨v, hv, rest⟩ := h.cl x i hc
      exact ⟨v, List.mem_append_left _ hv, rest⟩
    · rcases List.mem_append.mp hv with hv | hv
      · exact h.sv v hv hd hc
      · -- a live holder is not skipped
        cases List.mem_singleton.mp hv
        rw [hasCidrs_of_cidrs hc rfl, hd] at hskip
        cases hskip
    · rcases h.tight j cd hu with ⟨x, hc, v, hv, hvn, hcd⟩ | hs
      · exact Or.inl ⟨x, hc, v, List.mem_append_left _ hv, hvn, hcd⟩
      · exact Or.inr hs
  · rename_i hskip
    have hhas : n.hasCidrs = true ∧ n.deleting = false := by
      cases h1 : n.hasCidrs <;> cases h2 : n.deleting <;> simp [h1, h2] at hskip ⊢
    have hne : n.cidrs ≠ [] := fun he => by rw [hasCidrs_false_iff.mpr ⟨hj, he⟩] at hhas; cases hhas.1
    -- the node's home in `a1` is entry `i₀` of `al` too: same shapes
    obtain ⟨i₀, c, hg1, hel, hblk⟩ := hhome hhas.2 hne
    obtain ⟨c', hg', hsh'⟩ := Alloc.get?_of_map_eq sh h.sh.symm hg1
    obtain ⟨hk, _, hr⟩ := kn_of_sh hsh'
    have hel' : (matchCIDR c'.reqs n.labels).1 = true ∨ (c'.key == defaultKey) = true := by rw [hk, hr]; exact hel
    obtain ⟨hwf', hcl, hus, hel''⟩ := occupyCIDRs_fresh h.wf (rangesDisj_of_SH h.sh.symm hrd) hj hne hg' (h.nt i₀ c' hg') hel'
      fun cd hcd => (hblk cd hcd).of_geo (geoLe_of_sh hsh')
    have hfr := frame_occupyCIDRs al n
    refine ⟨hwf', (SH_of_frame hfr).trans h.sh, fun i d hd => ?_, fun x i hc => ?_, fun x i j hci hcj => ?_,
      fun v hv hd hc => ?_, fun j cd hu => ?_⟩
    · obtain ⟨d0, hd0, ht⟩ := Alloc.get?_of_map_eq _ (Alloc.map_of_frame (·.term) hfr) hd
      exact ht.symm.trans (h.nt i d0 hd0)
    · rcases (hcl x i).mp hc with hc | ⟨rfl, rfl⟩
      · obtain ⟨v, hv, h1, h2, h3, h4, h5⟩ := h.cl x i hc
        exact ⟨v, List.mem_append_left _ hv, h1, h2, h3, fun cd hcd => (hus _ _).mpr (Or.inl (h4 cd hcd)), (hel'' _ _).mpr h5⟩
      · exact ⟨n, hlast, rfl, hhas.2, hne, fun cd hcd => (hus _ _).mpr (Or.inr ⟨rfl, hcd⟩), (hel'' _ _).mpr ⟨c', hg', hel'⟩⟩
    · -- an association from before belongs to a node of `done`, none of which has the name of `n`
      have hold : ∀ {k}, Claims al n.name k → False := fun hk => by
        obtain ⟨v, hv, h1, _⟩ := h.cl _ _ hk
        exact hfresh v hv h1
      rcases (hcl x i).mp hci with hi' | ⟨hxi, hi'⟩ <;> rcases (hcl x j).mp hcj with hj' | ⟨hxj, hj'⟩
      · exact h.uq x i j hi' hj'
      · exact (hold (hxj ▸ hi')).elim
      · exact (hold (hxi ▸ hj')).elim
      · rw [hi', hj']
    · rcases List.mem_append.mp hv with hv | hv
      · exact (h.sv v hv hd hc).imp fun i hi => (hcl _ _).mpr (Or.inl hi)
      · cases List.mem_singleton.mp hv
        exact ⟨i₀, (hcl _ _).mpr (Or.inr ⟨rfl, rfl⟩)⟩
    · rcases (hus j cd).mp hu with hold | ⟨rfl, hin⟩
      · rcases h.tight j cd hold with ⟨x, hc, v, hv, hvn, hcd⟩ | hs
        · exact Or.inl ⟨x, (hcl x j).mpr (Or.inl hc), v, List.mem_append_left _ hv, hvn, hcd⟩
        · exact Or.inr hs
      · exact Or.inl ⟨n.name, (hcl _ _).mpr (Or.inr ⟨rfl, rfl⟩), n, hlast, rfl, hin⟩

theorem bootNodes_cons (al : Alloc) (n : NodeObj) (rest : List NodeObj) :
    bootNodes al (n :: rest) = bootNodes (if (!n.hasCidrs || n.deleting) = true then al else (occupyCIDRs al n).1) rest := by
  rw [bootNodes]; split <;> rfl

theorem bootNodes_spec (a1 : Alloc) (svcs : List Cidr) (hrd : RangesDisj a1) : ∀ (l : List NodeObj) (al : Alloc) (done : List NodeObj),
    BN a1 al done svcs → ((done ++ l).map (·.name)).Nodup →
    (∀ n ∈ l, n.junk = false ∧ (n.deleting = false → n.cidrs ≠ [] → Home a1 n)) →
    BN a1 (bootNodes al l) (done ++ l) svcs := by
  intro l
  induction l with
  | nil => intro al done h _ _; rw [List.append_nil]; exact h
  | cons n rest ih =>
    intro al done h hnd hall
    have hn := hall n (List.mem_cons_self ..)
    rw [bootNodes_cons, List.append_cons]
    refine ih _ _ (bn_step h hrd n (fun v hv he => ?_) hn.1 hn.2) (List.append_cons .. ▸ hnd) fun m hm =>
      hall m (List.mem_cons_of_mem _ hm)
    exact (List.nodup_append.mp (List.map_append ▸ hnd)).2.2 _ (List.mem_map_of_mem hv) _
      (List.mem_map_of_mem (List.mem_cons_self ..)) he

theorem occupyService_static (c : CC) (svc : Cidr) : (c.occupyService svc).assoc = c.assoc ∧ (c.occupyService svc).term = c.term := by
  rcases c.occupyService_cases svc with e | ⟨c', ho, e⟩ <;> rw [e]
  · exact ⟨rfl, rfl⟩
  · exact (cc_occupy_static ho).2.2.2

theorem filterAll_fresh (svcs : List Cidr) (al : Alloc) (h : ∀ c ∈ al.ccs, c.assoc = [] ∧ c.term = false) :
    ∀ c ∈ (svcs.foldl (fun a sv => a.filterService sv) al).ccs, c.assoc = [] ∧ c.term = false := by
  refine filterAll_induct (P := fun a => ∀ c ∈ a.ccs, c.assoc = [] ∧ c.term = false) (fun a sv _ h c hc => ?_) al h
  obtain ⟨c0, hc0, rfl⟩ := List.mem_map.mp hc
  rw [(occupyService_static c0 sv).1, (occupyService_static c0 sv).2]; exact h c0 hc0

/-- what the service filter marks in one entry: blocks that meet the service range, nothing else -/
theorem occupyService_used {c : CC} (hc : c.WF) {svc : Cidr} (hsvc : svc.WF) {cd : Cidr} (hu : InUse (c.occupyService svc) cd) :
    InUse c cd ∨ ¬ cd.Disjoint svc := by
  rcases c.occupyService_cases svc with e | ⟨c', ho, e⟩ <;> rw [e] at hu
  · exact Or.inl hu
  · exact ((occupy_inUse hc hsvc ho cd).mp hu).imp_right (·.2.2)

theorem filterAll_used (svcs : List Cidr) (hw : ∀ sv ∈ svcs, sv.WF) (a : Alloc) (ha : a.WF) (h0 : ∀ j cd, ¬ UsedAt a j cd) :
    ∀ j cd, UsedAt (svcs.foldl (fun a sv => a.filterService sv) a) j cd → ∃ svc ∈ svcs, ¬ cd.Disjoint svc := by
  refine (filterAll_induct (P := fun a' => a'.WF ∧ ∀ j cd, UsedAt a' j cd → ∃ svc ∈ svcs, ¬ cd.Disjoint svc)
    (fun a' sv hsv h => ⟨(C09.filterService_covers a' h.1 sv (hw sv hsv)).1, fun j cd hu => ?_⟩) a
    ⟨ha, fun j cd hu => absurd hu (h0 j cd)⟩).2
  -- entry `j` of the filtered map is `occupyService` of entry `j`
  obtain ⟨c', hg, hu⟩ := usedAt_iff.mp hu
  rw [Alloc.get?_filterService] at hg
  obtain ⟨c, hc, rfl⟩ := Option.map_eq_some_iff.mp hg
  exact (occupyService_used (h.1 j c hc) (hw sv hsv) hu).elim (fun hu0 => h.2 j cd (usedAt_iff.mpr ⟨c, hc, hu0⟩))
    fun hnd => ⟨sv, hsv, hnd⟩

theorem bc_init {s : Sys} (hc : CCI s.api.ccs s.ccView s.alloc) (svcs : List Cidr) : BC s.api.ccs (bootStart s svcs) :=
  ⟨fun _ o0 hn => ⟨o0, hn, rfl⟩,
    ⟨fun _ hx => (List.not_mem_nil hx).elim, hc.gen, fun _ _ _ hv => (nomatch hv), fun _ _ hv => (nomatch hv), hc.delFin⟩,
    fun _ hc => (List.not_mem_nil hc).elim⟩

theorem bn_init {al : Alloc} {svcs : List Cidr} (hwf : al.WF) (hfresh : ∀ c ∈ al.ccs, c.assoc = [] ∧ c.term = false)
    (hsvc : ∀ j cd, UsedAt al j cd → ∃ svc ∈ svcs, ¬ cd.Disjoint svc) : BN al al [] svcs := by
  have hnc : ∀ x i, ¬ Claims al x i := by
    rintro x i ⟨c, hg, hx⟩; rw [(hfresh c (List.mem_of_getElem? hg)).1] at hx; cases hx
  exact ⟨hwf, rfl, fun i c hg => (hfresh c (List.mem_of_getElem? hg)).2, fun x i hc => absurd hc (hnc x i),
    fun x i _ hc => absurd hc (hnc x i), fun _ hv => (List.not_mem_nil hv).elim, fun j cd hu => Or.inr (hsvc j cd hu)⟩

/-- the node loop's invariant for the whole list of listed nodes is the exact description of the map after `boot`;
`a1` is the rebuilt and service-filtered map -/
theorem boot_exact {s : Sys} (h : Inv s) (hc : CCI s.api.ccs s.ccView s.alloc) (svcs : List Cidr) (ws : List WOut)
    (hsv : ∀ sv ∈ svcs, sv.WF) (hspec : ∀ o ∈ s.api.ccs, C09.SpecOK o.spec)
    (hrd : RangesDisj (boot s svcs ws).1.alloc) :
    (∃ a1, BN a1 (boot s svcs ws).1.alloc (sortNodeObjs s.api.nodes) svcs) ∧
      CCI (boot s svcs ws).1.api.ccs (boot s svcs ws).1.ccView (boot s svcs ws).1.alloc := by
  obtain ⟨hbc1, _, hcomplete⟩ := bootCCs_spec s.api.ccs hc.gen hc.delFin (sortCCObjs s.api.ccs) (bootStart s svcs) ws []
    (bc_init hc svcs) (sortCCObjs_get s.api.ccs)
  have hwf1 := C09.bootCCs_WF (sortCCObjs s.api.ccs) (bootStart s svcs) ws [] (fun j c hj => by simp [Alloc.get?] at hj)
    (fun o ho => hspec o (mem_sortCCObjs _ _ ho))
  generalize hs1 : (bootCCs (bootStart s svcs) (sortCCObjs s.api.ccs) ws []).1 = s1 at hbc1 hcomplete hwf1
  generalize hal1 : svcs.foldl (fun a sv => a.filterService sv) s1.alloc = al1
  have hshA : SH al1 = SH s1.alloc := hal1 ▸ SH_of_frame (frame_filterAll svcs s1.alloc)
  have hfreshA : ∀ c ∈ al1.ccs, c.assoc = [] ∧ c.term = false :=
    hal1 ▸ filterAll_fresh svcs s1.alloc (fun c hc => ⟨(hbc1.fresh c hc).1, (hbc1.fresh c hc).2.1⟩)
  have hbn0 : BN al1 al1 [] svcs := by
    refine bn_init (hal1 ▸ (C09.filterAll_covers svcs s1.alloc hwf1 hsv).1) hfreshA (hal1 ▸ filterAll_used svcs hsv s1.alloc hwf1 ?_)
    rintro j cd ⟨c, p, k, hg, hp, hk, _⟩
    rw [(hbc1.fresh c (List.mem_of_getElem? hg)).2.2 _ p hp] at hk; cases hk
  -- every holder finds the rebuilt twin of the entry that recorded it
  have halloc : (boot s svcs ws).1.alloc = bootNodes al1 (sortNodeObjs s.api.nodes) := by rw [boot_alloc, hs1, hal1]
  have hccs : (boot s svcs ws).1.api.ccs = s1.api.ccs := by rw [boot_ccs, hs1]
  have hrd1 : RangesDisj al1 := rangesDisj_of_SH (SH_of_frame (frame_bootNodes _ al1)) (halloc ▸ hrd)
  have hhome : ∀ n ∈ sortNodeObjs s.api.nodes, n.junk = false ∧ (n.deleting = false → n.cidrs ≠ [] → Home al1 n) := by
    intro n hn
    have hnapi := mem_sortNodeObjs _ _ hn
    have hnobj : n ∈ Objs s := List.mem_append_left _ (List.mem_append_left _ hnapi)
    refine ⟨h.obj.nojunk n hnobj, fun hd hne => ?_⟩
    obtain ⟨i, hcl, hused⟩ := h.held n (List.mem_append_left _ hnapi) hne (Or.inl hd)
    obtain ⟨c, hg, hm⟩ := h.obj.elig i n.name hcl n hnobj rfl
    -- the API object behind entry `i`, and the entry rebuilt from it
    obtain ⟨o, c0, ho, hbf, hshc⟩ := hc.ent (sh c) (mem_SH.mpr ⟨c, List.mem_of_getElem? hg, rfl⟩)
    obtain ⟨d, hdm, hds⟩ := mem_SH.mp (hshA ▸ hcomplete o (sortCCObjs_complete s.api.ccs ho) c0 hbf)
    obtain ⟨i', hi'⟩ := List.getElem?_of_mem hdm
    have hdc : sh d = sh c := hds.trans hshc.symm
    obtain ⟨hk, _, hr⟩ := kn_of_sh hdc
    refine ⟨i', d, hi', by rw [hk, hr]; exact hm, fun cd hcd => ?_⟩
    exact ((Alloc.at_self hg _).mp (usedAt_isBlock h.wf (hused cd hcd))).of_geo (geoLe_of_sh hdc)
  refine ⟨⟨al1, ?_⟩, ?_⟩
  · rw [halloc]
    exact bootNodes_spec al1 svcs hrd1 _ al1 [] hbn0 (sortNodeObjs_nodup h.nodupApi) hhome
  · rw [boot_ccView, hccs, halloc]
    exact cci_alloc (cci_view_api hbc1.cci) (by rw [SH_of_frame (frame_bootNodes _ al1), hshA])

theorem inv_boot {s : Sys} (h : Inv s) (hc : CCI s.api.ccs s.ccView s.alloc) (svcs : List Cidr) (ws : List WOut)
    (hsv : ∀ sv ∈ svcs, sv.WF) (hspec : ∀ o ∈ s.api.ccs, C09.SpecOK o.spec)
    (hrd : RangesDisj (boot s svcs ws).1.alloc) :
    Inv (boot s svcs ws).1 ∧ CCI (boot s svcs ws).1.api.ccs (boot s svcs ws).1.ccView (boot s svcs ws).1.alloc ∧
      Tight (boot s svcs ws).1 := by
  obtain ⟨⟨a1, hbn⟩, hcci⟩ := boot_exact h hc svcs ws hsv hspec hrd
  have hL : ∀ {v}, v ∈ sortNodeObjs s.api.nodes → v ∈ s.api.nodes := fun hv => mem_sortNodeObjs _ _ hv
  refine ⟨inv_of_exact h (boot_nodes ..) (boot_graves ..) (boot_nodeView ..) hbn.wf hrd ?_ hbn.uq ?_, hcci, ?_⟩
  · intro x i hci
    obtain ⟨v, hv, rest⟩ := hbn.cl x i hci
    exact ⟨v, hL hv, rest⟩
  · exact fun v hv => hbn.sv v (sortNodeObjs_complete h.nodupApi hv)
  · intro j cd hu
    rcases hbn.tight j cd hu with ⟨x, hc', v, hv, hvn, hcd⟩ | hs
    · exact Or.inl ⟨x, hc', v, List.mem_append_left _ (by rw [boot_nodes]; exact hL hv), hvn, hcd⟩
    · exact Or.inr (by rw [boot_svcs]; exact hs)

structure Inv3 (s : Sys) : Prop where
  inv : Inv s
  cci : CCI s.api.ccs s.ccView s.alloc
  one : OnePer.NoDupKN s.alloc

theorem frag_of_frag3 {s : Sys} {e : Ev} (hnb : ∀ sv ws, e ≠ .boot sv ws) (hf : Frag3 s e) : Frag s e := by
  cases e with
  | boot sv ws => exact absurd rfl (hnb sv ws)
  | ccGen name g => exact hf.elim
  | ccAdd | ccDel => trivial
  | _ => exact hf

theorem inv3_step {s : Sys} (h : Inv3 s) (e : Ev) (hf : Frag3 s e) : Inv3 (step s e).1 := by
  by_cases hb : ∃ sv ws, e = .boot sv ws
  · obtain ⟨sv, ws, rfl⟩ := hb
    obtain ⟨k1, k2, _⟩ := inv_boot h.inv h.cci sv ws hf.1 hf.2.1 hf.2.2
    exact show Inv3 (boot s sv ws).1 from ⟨k1, k2, OnePer.nodup_boot s sv ws⟩
  · have hnb : ∀ sv ws, e ≠ .boot sv ws := fun sv ws he => hb ⟨sv, ws, he⟩
    exact ⟨inv_step h.inv e (frag_of_frag3 hnb hf), cci_step h.cci h.one e hnb hf, OnePer.nodup_step h.one e⟩

def Frag3All : Sys → List Ev → Prop
  | _, [] => True
  | s, e :: rest => Frag3 s e ∧ Frag3All (step s e).1 rest

theorem inv3_run : ∀ (evs : List Ev) (s : Sys), Inv3 s → Frag3All s evs → Inv3 (run s evs) :=
  run_induction id fun e h hf => inv3_step h e hf

/-- a start satisfying `Inv` whose mapped entries were built from the ClusterCIDR objects the API holds -/
theorem inv3_of_inv {s : Sys} (h : Inv s) (hc : CCI s.api.ccs s.ccView s.alloc) (ho : OnePer.NoDupKN s.alloc) : Inv3 s := ⟨h, hc, ho⟩

/-- **no two existing nodes overlap, at any moment of any history of the fragment — restarts included** -/
theorem no_overlap_across_restarts (s : Sys) (hs : Inv3 s) (evs : List Ev) (hf : Frag3All s evs) :
    NoOverlap (run s evs) := (inv3_run evs s hs hf).inv.noOverlap

/-- **every existing holder is recorded again by the new incarnation**: right after a restart every node that exists,
is not being deleted and has pod CIDRs is associated with exactly one entry, in which all of them are in use -/
theorem restart_records_every_holder {s : Sys} (h : Inv3 s) (svcs : List Cidr) (ws : List WOut) (hf : Frag3 s (.boot svcs ws)) :
    ∀ v ∈ (boot s svcs ws).1.api.nodes, v.deleting = false → v.cidrs ≠ [] →
      ∃ i, Claims (boot s svcs ws).1.alloc v.name i ∧ (∀ cd ∈ v.cidrs, UsedAt (boot s svcs ws).1.alloc i cd) ∧
        ∀ j, Claims (boot s svcs ws).1.alloc v.name j → j = i := by
  intro v hv hd hne
  have k : Inv (boot s svcs ws).1 := (inv3_step h (.boot svcs ws) hf).inv
  obtain ⟨i, hci, hu⟩ := k.held v (List.mem_append_left _ hv) hne (Or.inl hd)
  exact ⟨i, hci, hu, fun j hcj => k.uniq j i v.name hcj hci⟩

/-- **nothing is resurrected**: after a restart every association belongs to a node the API lists, with pod CIDRs
that are all in use in that entry — reservations of the previous incarnation that were never written are gone -/
theorem restart_claims_listed {s : Sys} (h : Inv3 s) (svcs : List Cidr) (ws : List WOut) (hf : Frag3 s (.boot svcs ws)) :
    ∀ i x, Claims (boot s svcs ws).1.alloc x i →
      ∃ v ∈ (boot s svcs ws).1.api.nodes, v.name = x ∧ v.cidrs ≠ [] ∧ ∀ cd ∈ v.cidrs, UsedAt (boot s svcs ws).1.alloc i cd := by
  intro i x hc
  obtain ⟨⟨a1, hbn⟩, _⟩ := boot_exact h.inv h.cci svcs ws hf.1 hf.2.1 hf.2.2
  obtain ⟨v, hv, hvn, _, hvc, hvu, _⟩ := hbn.cl x i hc
  exact ⟨v, by rw [boot_nodes]; exact mem_sortNodeObjs _ _ hv, hvn, hvc, hvu⟩

/-- the invariant of C03 together with "every used block is justified" (C04) -/
structure Inv4 (s : Sys) : Prop where
  inv3 : Inv3 s
  tight : Tight s

/-- **right after a restart every block in use is a pod CIDR of a listed node associated with that entry, or meets
a configured service range** — whatever the crashed incarnation had reserved, leaked or kept for deleted nodes is free -/
theorem restart_withholds_only_justified {s : Sys} (h : Inv3 s) (svcs : List Cidr) (ws : List WOut)
    (hf : Frag3 s (.boot svcs ws)) : Tight (boot s svcs ws).1 :=
  (inv_boot h.inv h.cci svcs ws hf.1 hf.2.1 hf.2.2).2.2

theorem inv4_step {s : Sys} (h : Inv4 s) (e : Ev) (hf : Frag3 s e) : Inv4 (step s e).1 := by
  refine ⟨inv3_step h.inv3 e hf, ?_⟩
  by_cases hb : ∃ sv ws, e = .boot sv ws
  · obtain ⟨sv, ws, rfl⟩ := hb
    exact restart_withholds_only_justified h.inv3 sv ws hf
  · have hnb : ∀ sv ws, e ≠ .boot sv ws := fun sv ws he => hb ⟨sv, ws, he⟩
    exact tight_step h.inv3.inv h.tight e (frag_of_frag3 hnb hf)

theorem inv4_run : ∀ (evs : List Ev) (s : Sys), Inv4 s → Frag3All s evs → Inv4 (run s evs) :=
  run_induction id fun e h hf => inv4_step h e hf

/-! ## a crash right after a node write whose answer never arrived

Without a restart a node write that is applied but reported as failed is finding P13 (the reservation is released
although the node now holds the block), so `Frag` excludes it.  Followed by a restart it is harmless: the new
incarnation is a function of the API state (`C03.boot_depends_on_api_only`), and the API state after an item with
lost answers is the API state after the same item with those answers delivered. -/

def okify (ws : List WOut) : List WOut := ws.map (fun w => if w = .lost then .ok else w)

theorem patchNode_changes {a : Api} {name : String} {cidrs : List Cidr} :
    (a.patchNode name cidrs).1 = a ∨
    ∃ n, getNode a.nodes name = some n ∧ n.hasCidrs = false ∧
      a.patchNode name cidrs = ({ a with nodes := putNode a.nodes { n with cidrs := cidrs } }, true) :=
  patchNode_cases a name cidrs

theorem attempts_okify : ∀ (k : Nat) (ws : List WOut),
    attempts k (okify ws) = (attempts k ws).map (fun w => if w = .lost then .ok else w)
  | 0, _ => rfl
  | k + 1, [] => congrArg (_ :: ·) (attempts_okify k [])
  | k + 1, _ :: t => congrArg (_ :: ·) (attempts_okify k t)

/-- a lost answer and a delivered one leave the same API behind: the loop's API depends only on whether some attempt
reached the server (`patchLoop_eq`) -/
theorem patchLoop_okify (name : String) (cidrs : List Cidr) (k : Nat) (a : Api) (ws : List WOut)
    (acc acc' : List (String × List Cidr × String)) :
    (patchLoop a name cidrs k ws acc).1 = (patchLoop a name cidrs k (okify ws) acc').1 := by
  rw [(patchLoop_eq name cidrs k a ws acc).1, (patchLoop_eq name cidrs k a (okify ws) acc').1, attempts_okify]
  have : (∀ w ∈ (attempts k ws).map (fun w => if w = .lost then .ok else w), w = WOut.fail) ↔
      ∀ w ∈ attempts k ws, w = WOut.fail := by
    simp only [List.forall_mem_map]
    exact forall₂_congr fun w _ => by cases w <;> simp
  simp only [this]

theorem procNode_api_okify (s : Sys) (name : String) (refresh : Bool) (ws : List WOut) :
    (procNode s name refresh ws).1.api = (procNode s name refresh (okify ws)).1.api := by
  rcases procNode_api s name refresh with h | ⟨nm, cs, _, h⟩ <;> rw [h, h]
  exact patchLoop_okify nm cs 3 s.api ws [] []

theorem okify_frag (ws : List WOut) : ∀ w ∈ (okify ws).take 3, w ≠ WOut.lost := by
  intro w hw
  have := List.mem_of_mem_take hw
  unfold okify at this
  obtain ⟨w0, _, rfl⟩ := List.mem_map.mp this
  split
  · intro h; cases h
  · assumption

/-- a restart forgets everything but the API: if the API state at the crash is also the API state of a state satisfying
the invariant, the new incarnation satisfies the invariant -/
theorem inv3_boot_of_api {s t : Sys} (ht : Inv3 t) (hapi : s.api = t.api) (svcs : List Cidr) (ws : List WOut)
    (hb : Frag3 s (.boot svcs ws)) : Inv3 (boot s svcs ws).1 := by
  have hboot := C03.boot_depends_on_api_only s t hapi svcs ws
  rw [hboot]
  exact inv3_step ht (.boot svcs ws) ⟨hb.1, hapi ▸ hb.2.1, hboot ▸ hb.2.2⟩

/-- **crash between a successful node write and recording it**: a node item with *any* write outcomes — also
writes that were applied although the controller saw an error — followed by a restart leaves the controller in a
state satisfying the invariant: no assignment is lost, none is handed out twice. -/
theorem crash_after_node_write {s : Sys} (h : Inv3 s) (name : String) (refresh : Bool) (ws : List WOut)
    (svcs : List Cidr) (ws' : List WOut) (hb : Frag3 (step s (.procNode name refresh ws)).1 (.boot svcs ws')) :
    Inv3 (run s [.procNode name refresh ws, .boot svcs ws']) := by
  rw [C03.crash_points_are_histories]
  -- the same item with the lost answers delivered is an event of the fragment and leaves the same API state
  refine inv3_boot_of_api (inv3_step h (.procNode name refresh (okify ws)) (okify_frag ws)) ?_ svcs ws' hb
  show (if _ then _ else _ : Sys × Obs).1.api = (if _ then _ else _ : Sys × Obs).1.api
  split
  · exact procNode_api_okify s name refresh ws
  · rfl

/-! ## an executable test for membership in the fragment (run by the driver's `frag3` / `frag1` modes, and for the examples below) -/

instance (fld : RangeField) (hb : Int) : Decidable (C09.FieldOK fld hb) := by
  unfold C09.FieldOK
  cases fld <;> simp only <;> exact inferInstance
instance (sp : CCSpec) : Decidable (C09.SpecOK sp) := by unfold C09.SpecOK; exact inferInstance

def poolAt (a : Alloc) (i : Nat) (f : Fam) : Option Pool := (a.ccs[i]?).bind (·.pool f)

def rangesDisjB (a : Alloc) : Bool :=
  (List.range a.ccs.length).all fun i => (List.range a.ccs.length).all fun j => i == j ||
    [Fam.v4, Fam.v6].all fun f =>
      match poolAt a i f, poolAt a j f with
      | some p, some q => decide (p.geo.range.Disjoint q.geo.range)
      | _, _ => true

theorem rangesDisj_of_B {a : Alloc} (h : rangesDisjB a = true) : RangesDisj a := by
  intro i j c d f p q hi hj hp hq hne
  unfold Alloc.get? at hi hj
  have hil : i < a.ccs.length := (List.getElem?_eq_some_iff.mp hi).1
  have hjl : j < a.ccs.length := (List.getElem?_eq_some_iff.mp hj).1
  unfold rangesDisjB at h
  rw [List.all_eq_true] at h
  have h1 := h i (List.mem_range.mpr hil)
  rw [List.all_eq_true] at h1
  have h2 := h1 j (List.mem_range.mpr hjl)
  simp only [Bool.or_eq_true, beq_iff_eq, hne, false_or, List.all_eq_true] at h2
  have h3 := h2 f (by cases f <;> simp)
  have e1 : poolAt a i f = some p := by unfold poolAt; rw [hi]; exact hp
  have e2 : poolAt a j f = some q := by unfold poolAt; rw [hj]; exact hq
  rw [e1, e2] at h3
  simpa using h3

def frag3B (s : Sys) : Ev → Bool
  | .boot svcs ws => decide (∀ sv ∈ svcs, sv.WF) && decide (∀ o ∈ s.api.ccs, C09.SpecOK o.spec) && rangesDisjB (boot s svcs ws).1.alloc
  | .nodeAdd n => decide (n.cidrs = []) && decide (n.junk = false) && decide (getNode s.nodeView n.name = none)
  | .nodeDel _ => true
  | .nodeDeleting _ => true
  | .deliverNode name tomb => !tomb || (getNode s.api.nodes name).isSome
  | .procNode _ _ ws => decide (∀ w ∈ ws.take 3, w ≠ WOut.lost)
  | .ccAdd name _ => decide (getCC s.ccView name = none)
  | .ccDel name => match getCC s.api.ccs name with
      | none => true
      | some o => hasFin o || (decide (∀ c ∈ s.alloc.ccs, c.name ≠ name) && decide (getCC s.ccView name = none))
  | .ccAddFin _ _ => true
  | .deliverCC _ => true
  | .procCC name _ => match getCC s.ccView name with
      | none => true
      | some obj => obj.deleting || (decide (C09.SpecOK obj.spec) && match s.alloc.createCC obj.name obj.spec false with
          | none => true
          | some al => rangesDisjB al)
  | _ => false

theorem frag3_of_B {s : Sys} {e : Ev} (h : frag3B s e = true) : Frag3 s e := by
  cases e with
  | boot svcs ws =>
    simp only [frag3B, Bool.and_eq_true, decide_eq_true_eq] at h
    exact ⟨h.1.1, h.1.2, rangesDisj_of_B h.2⟩
  | nodeAdd n =>
    simp only [frag3B, Bool.and_eq_true, decide_eq_true_eq] at h
    exact ⟨h.1.1, h.1.2, h.2⟩
  | nodeDel | nodeDeleting | ccAddFin | deliverCC => trivial
  | nodeLabels | nodeSetCIDRs | ccGen => simp [frag3B] at h
  | deliverNode name tomb =>
    intro ht
    simp only [frag3B, ht, Bool.not_true, Bool.false_or] at h
    exact h
  | procNode | ccAdd =>
    simp only [frag3B, decide_eq_true_eq] at h
    exact h
  | ccDel name =>
    intro o ho
    simp only [frag3B, ho, Bool.or_eq_true, Bool.and_eq_true, decide_eq_true_eq] at h
    exact h
  | procCC name w =>
    intro obj hobj hd
    simp only [frag3B, hobj, hd, Bool.false_or, Bool.and_eq_true, decide_eq_true_eq] at h
    refine ⟨h.1, ?_⟩
    intro al hal
    rw [hal] at h
    exact rangesDisj_of_B h.2

/-- the same for the fragment of `Safety.lean` (no restart; ClusterCIDRs may be deleted and edited at any time) -/
def fragB (s : Sys) : Ev → Bool
  | .boot _ _ => false
  | .ccAdd _ _ => true
  | .ccDel _ => true
  | .ccGen _ _ => true
  | e => frag3B s e

theorem frag_of_B {s : Sys} {e : Ev} (h : fragB s e = true) : Frag s e := by
  cases e with
  | boot svcs ws => simp [fragB] at h
  | ccAdd | ccDel | ccGen => trivial
  | _ => exact frag_of_frag3 (fun _ _ he => by cases he) (frag3_of_B h)

theorem inv3_unstarted {s : Sys} (hal : s.alloc = ⟨[]⟩) (hnv : s.nodeView = []) (hcv : s.ccView = []) (hn : s.api.nodes = [])
    (hg : s.api.graves = []) (hcc : ∀ o ∈ s.api.ccs, o.generation ≤ 1 ∧ o.deleting = false) : Inv3 s := by
  have hget : ∀ i c, s.alloc.get? i ≠ some c := by intro i c; rw [hal]; simp [Alloc.get?]
  refine ⟨inv_init s (fun i c hc => absurd hc (hget i c)) (fun i _ c _ _ _ _ hi => absurd hi (hget i c))
      (fun i c hc => absurd hc (hget i c)) hnv hg (hn ▸ List.nodup_nil) (fun y hy => (by rw [hn] at hy; cases hy)),
    ⟨fun x hx => (by rw [hal] at hx; cases hx), fun n o ho => (hcc o (mem_of_getCC ho).1).1,
      fun n v o hv => (by rw [hcv] at hv; cases hv), fun n v hv => (by rw [hcv] at hv; cases hv),
      fun n o ho hd => (by rw [(hcc o (mem_of_getCC ho).1).2] at hd; cases hd)⟩, ?_⟩
  unfold OnePer.NoDupKN OnePer.KN; rw [hal]; exact List.nodup_nil

/-- the empty cluster with a controller that has not started satisfies the invariants -/
theorem inv3_init : Inv3 Sys.init := inv3_unstarted rfl rfl rfl rfl rfl fun _ ho => (nomatch ho)

def frag3AllB : Sys → List Ev → Bool
  | _, [] => true
  | s, e :: rest => frag3B s e && frag3AllB (step s e).1 rest

theorem frag3All_of_B : ∀ (evs : List Ev) (s : Sys), frag3AllB s evs = true → Frag3All s evs := by
  intro evs
  induction evs with
  | nil => intro _ _; trivial
  | cons e rest ih =>
    intro s h
    simp only [frag3AllB, Bool.and_eq_true] at h
    exact ⟨frag3_of_B h.1, ih _ h.2⟩

/-! ## the hypotheses are satisfiable: a history of the fragment in which the controller starts and is restarted twice -/

def exCCa : CCObj := ⟨"a", ⟨none, 4, .ok ⟨.v4, 0x0a000000, 27⟩ "10.0.0.0/27", .empty⟩, [], false, 1, 1⟩
def exCCb : CCObj :=
  ⟨"b", ⟨some [⟨[⟨"zone", "In", ["a"], true, true⟩], []⟩], 4, .ok ⟨.v4, 0x0a000100, 26⟩ "10.0.1.0/26", .empty⟩, [], false, 1, 2⟩
/-- a cluster with two ClusterCIDR objects and a controller that has not started yet -/
def exStart3 : Sys := { Sys.init with api := ⟨[], [exCCa, exCCb], []⟩ }

theorem exStart3_inv3 : Inv3 exStart3 := inv3_unstarted rfl rfl rfl rfl rfl (by decide)

def exHistory3 : List Ev :=
  [.boot [] [],
   .nodeAdd ⟨"n1", [], [], false, false⟩, .deliverNode "n1" false, .procNode "n1" false [],
   .nodeAdd ⟨"n2", [], [], false, false⟩, .deliverNode "n2" false, .procNode "n2" false [],
   -- n1 is marked for deletion and lingers; its block is released and goes to n3
   .nodeDeleting "n1", .deliverNode "n1" false, .procNode "n1" false [],
   .nodeAdd ⟨"n3", [], [], false, false⟩, .deliverNode "n3" false, .procNode "n3" false [],
   -- the controller restarts (the second finalizer write fails), then n1 goes for good
   .boot [] [.ok, .fail],
   .nodeDel "n1", .deliverNode "n1" false,
   .nodeAdd ⟨"n4", [], [], false, false⟩, .deliverNode "n4" false, .procNode "n4" false [],
   .boot [⟨.v4, 0x0a000100, 28⟩] []]

theorem exHistory3_frag : Frag3All exStart3 exHistory3 := frag3All_of_B _ _ (by decide +kernel)

example : Frag3All exStart3 exHistory3 := exHistory3_frag

/-- n2 and n3 hold the two blocks of `a` (n3 the one n1 had), n4 — which the selector-less `a` alone can serve — gets
nothing instead of a block in use -/
example : (run exStart3 exHistory3).api.nodes.map (fun n => (n.name, n.cidrs.map (·.addr))) =
    [("n2", [0x0a000010]), ("n3", [0x0a000000]), ("n4", [])] := by decide +kernel

example : NoOverlap (run exStart3 exHistory3) :=
  no_overlap_across_restarts _ exStart3_inv3 _ exHistory3_frag

end Ipam.Restart
