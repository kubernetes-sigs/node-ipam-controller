import IpamVerif.System
import IpamVerif.SortLemmas
/-!
# Lists of named objects used as maps

`getNode`/`delNode`/`putNode` and `getCC`/`delCC`/`putCC` are the same three functions at two types: look up the
first element with a given name, filter a name out, replace-or-append.  Every fact is proved once for an arbitrary
naming function `nm : α → String` (namespace `Named`) and instantiated twice by `rfl`-unfolding.  The work queues
(`qAdd`, `qDel`) and `sortNames` follow.
-/
namespace Ipam

namespace Named
variable {α : Type} (nm : α → String)

/-- the three functions, with the name projection as a parameter (`getNode l = get NodeObj.name l` by `rfl`) -/
abbrev get (l : List α) (k : String) : Option α := l.find? (fun x => nm x == k)
abbrev del (l : List α) (k : String) : List α := l.filter (fun x => nm x != k)
abbrev put (l : List α) (o : α) : List α :=
  if l.any (fun x => nm x == nm o) then l.map (fun x => if nm x == nm o then o else x) else l ++ [o]

variable {nm}

theorem get_some {l : List α} {k : String} {o : α} (h : get nm l k = some o) : o ∈ l ∧ nm o = k :=
  ⟨List.mem_of_find?_eq_some h, by simpa using List.find?_some h⟩

theorem get_eq_none {l : List α} {k : String} : get nm l k = none ↔ ∀ o ∈ l, nm o ≠ k := by
  simp only [List.find?_eq_none, beq_iff_eq, ne_eq]

theorem get_of_mem {l : List α} {k : String} {g : α} (hg : g ∈ l) (hn : nm g = k) : ∃ g', get nm l k = some g' := by
  cases h : get nm l k with
  | some g' => exact ⟨g', rfl⟩
  | none => exact absurd hn (get_eq_none.mp h g hg)

theorem any_name {l : List α} {k : String} : l.any (fun x => nm x == k) = true ↔ ∃ x ∈ l, nm x = k := by
  simp only [List.any_eq_true, beq_iff_eq]

theorem get_cons (a : α) (l : List α) (k : String) : get nm (a :: l) k = if nm a = k then some a else get nm l k := by
  by_cases h : nm a = k
  · rw [if_pos h]; exact List.find?_cons_of_pos (beq_iff_eq.mpr h)
  · rw [if_neg h]; exact List.find?_cons_of_neg (mt beq_iff_eq.mp h)

theorem get_append_ne (l : List α) (o : α) {k : String} (h : k ≠ nm o) : get nm (l ++ [o]) k = get nm l k := by
  have : (nm o == k) = false := by simpa using fun e : nm o = k => h e.symm
  simp [get, List.find?_append, this]

theorem get_append_self (l : List α) (o : α) (h : get nm l (nm o) = none) : get nm (l ++ [o]) (nm o) = some o := by
  simp only [get] at h; simp [get, List.find?_append, h]

/-- `put` replaces an object by one of the same name -/
theorem nm_replace (o x : α) : nm (if nm x == nm o then o else x) = nm x := by
  split
  · rename_i h; exact (eq_of_beq h).symm
  · rfl

/-- the one computation behind every lookup lemma: lookup after replace-or-append -/
theorem get_put (l : List α) (o : α) (k : String) : get nm (put nm l o) k = if k = nm o then some o else get nm l k := by
  unfold put
  by_cases hany : l.any (fun x => nm x == nm o) = true
  · -- the replacement keeps every name, so the lookup commutes with it
    have hname : ((fun x => nm x == k) ∘ fun x => if nm x == nm o then o else x) = fun x => nm x == k :=
      funext fun x => congrArg (· == k) (nm_replace o x)
    have hmap : get nm (l.map fun x => if nm x == nm o then o else x) k =
        (get nm l k).map fun x => if nm x == nm o then o else x := by rw [get, List.find?_map, hname]
    rw [if_pos hany, hmap]
    by_cases hk : k = nm o
    · obtain ⟨y, hy, hyn⟩ := any_name.mp hany
      obtain ⟨g, hg⟩ := get_of_mem hy (hk ▸ hyn)
      rw [if_pos hk, hg, Option.map_some, if_pos (by rw [(get_some hg).2, hk]; exact beq_self_eq_true _)]
    · rw [if_neg hk]
      cases hg : get nm l k with
      | none => rfl
      | some g => rw [Option.map_some, if_neg (by rw [(get_some hg).2]; simpa using hk)]
  · rw [if_neg hany]
    by_cases hk : k = nm o
    · rw [if_pos hk, hk]
      exact get_append_self l o (get_eq_none.mpr fun x hx hxn => hany (any_name.mpr ⟨x, hx, hxn⟩))
    · rw [if_neg hk]; exact get_append_ne l o hk

theorem get_put_self (l : List α) (o : α) : get nm (put nm l o) (nm o) = some o := by rw [get_put, if_pos rfl]
theorem get_put_ne (l : List α) (o : α) {k : String} (h : k ≠ nm o) : get nm (put nm l o) k = get nm l k := by
  rw [get_put, if_neg h]

theorem mem_del {l : List α} {k : String} {o : α} : o ∈ del nm l k ↔ o ∈ l ∧ nm o ≠ k := by simp [del]

theorem get_del (l : List α) (k' k : String) : get nm (del nm l k') k = if k = k' then none else get nm l k := by
  by_cases hk : k = k'
  · rw [if_pos hk, get_eq_none]; subst hk; exact fun o ho => (mem_del.mp ho).2
  · rw [if_neg hk]
    induction l with
    | nil => rfl
    | cons a t ih =>
      by_cases ha : nm a = k'
      · have : nm a ≠ k := fun h => hk (h.symm.trans ha)
        rw [show del nm (a :: t) k' = del nm t k' by simp [del, ha], get_cons, if_neg this, ih]
      · rw [show del nm (a :: t) k' = a :: del nm t k' by simp [del, ha], get_cons, get_cons, ih]

theorem get_del_self (l : List α) (k : String) : get nm (del nm l k) k = none := by rw [get_del, if_pos rfl]
theorem get_del_ne (l : List α) {k' k : String} (h : k ≠ k') : get nm (del nm l k') k = get nm l k := by
  rw [get_del, if_neg h]

theorem mem_put {l : List α} {o x : α} : x ∈ put nm l o ↔ x = o ∨ (x ∈ l ∧ nm x ≠ nm o) := by
  unfold put
  by_cases hany : l.any (fun x => nm x == nm o) = true
  · obtain ⟨y, hy, hyn⟩ := any_name.mp hany
    rw [if_pos hany, List.mem_map]
    constructor
    · rintro ⟨z, hz, rfl⟩
      by_cases hn : nm z = nm o
      · exact Or.inl (if_pos (beq_iff_eq.mpr hn))
      · rw [if_neg (mt beq_iff_eq.mp hn)]; exact Or.inr ⟨hz, hn⟩
    · rintro (rfl | ⟨hx, hn⟩)
      · exact ⟨y, hy, if_pos (beq_iff_eq.mpr hyn)⟩
      · exact ⟨x, hx, if_neg (mt beq_iff_eq.mp hn)⟩
  · have : ∀ z ∈ l, nm z ≠ nm o := fun z hz hn => hany (any_name.mpr ⟨z, hz, hn⟩)
    rw [if_neg hany, List.mem_append, List.mem_singleton]
    constructor
    · rintro (h | h)
      · exact Or.inr ⟨h, this x h⟩
      · exact Or.inl h
    · rintro (h | h)
      · exact Or.inr h
      · exact Or.inl h.1

theorem put_put_self (l : List α) (o : α) : put nm (put nm l o) o = put nm l o := by
  have hany : (put nm l o).any (fun x => nm x == nm o) = true :=
    any_name.mpr ⟨o, mem_put.mpr (Or.inl rfl), rfl⟩
  conv => lhs; unfold put
  rw [if_pos hany]
  refine (List.map_congr_left fun x hx => ?_).trans (List.map_id' _)
  rcases mem_put.mp hx with rfl | ⟨_, hn⟩
  · exact if_pos (beq_self_eq_true _)
  · exact if_neg (mt beq_iff_eq.mp hn)

theorem put_names (l : List α) (o : α) :
    (put nm l o).map nm = if l.any (fun x => nm x == nm o) then l.map nm else l.map nm ++ [nm o] := by
  unfold put
  by_cases hany : l.any (fun x => nm x == nm o) = true
  · rw [if_pos hany, if_pos hany, List.map_map]
    exact List.map_congr_left fun x _ => nm_replace o x
  · rw [if_neg hany, if_neg hany, List.map_append]; rfl

theorem put_names_nodup {l : List α} {o : α} (h : (l.map nm).Nodup) : ((put nm l o).map nm).Nodup := by
  rw [put_names]
  split
  · exact h
  · rename_i hany
    refine List.nodup_append.mpr ⟨h, by simp, ?_⟩
    intro a ha b hb
    obtain ⟨y, hy, rfl⟩ := List.mem_map.mp ha
    rw [List.mem_singleton.mp hb]
    exact fun he => hany (any_name.mpr ⟨y, hy, he⟩)

theorem del_names_nodup {l : List α} {k : String} (h : (l.map nm).Nodup) : ((del nm l k).map nm).Nodup :=
  (List.filter_sublist.map _).nodup h

theorem eq_of_nodup_names {l : List α} (h : (l.map nm).Nodup) {x y : α} (hx : x ∈ l) (hy : y ∈ l) (hn : nm x = nm y) :
    x = y := by
  induction l with
  | nil => cases hx
  | cons a t ih =>
    rw [List.map_cons, List.nodup_cons] at h
    rcases List.mem_cons.mp hx with hxa | hxt <;> rcases List.mem_cons.mp hy with hya | hyt
    · rw [hxa, hya]
    · exact absurd (List.mem_map.mpr ⟨y, hyt, by rw [← hn, hxa]⟩) h.1
    · exact absurd (List.mem_map.mpr ⟨x, hxt, by rw [hn, hya]⟩) h.1
    · exact ih h.2 hxt hyt

theorem put_self_eq {l : List α} (h : (l.map nm).Nodup) {y : α} (hy : y ∈ l) : put nm l y = l := by
  unfold put
  rw [if_pos (any_name.mpr ⟨y, hy, rfl⟩)]
  refine (List.map_congr_left fun x hx => ?_).trans (List.map_id' l)
  split
  · rename_i he; exact (eq_of_nodup_names h hx hy (by simpa using he)).symm
  · rfl

end Named

theorem mem_of_getNode {l : List NodeObj} {n : String} {o : NodeObj} (h : getNode l n = some o) : o ∈ l ∧ o.name = n :=
  Named.get_some (nm := NodeObj.name) h
theorem getNode_none_iff {l : List NodeObj} {n : String} : getNode l n = none ↔ ∀ o ∈ l, o.name ≠ n :=
  Named.get_eq_none (nm := NodeObj.name)
theorem getNode_putNode_self (l : List NodeObj) (o : NodeObj) : getNode (putNode l o) o.name = some o :=
  Named.get_put_self (nm := NodeObj.name) l o
theorem getNode_putNode_ne (l : List NodeObj) (o : NodeObj) {n : String} (h : n ≠ o.name) :
    getNode (putNode l o) n = getNode l n := Named.get_put_ne (nm := NodeObj.name) l o h
theorem getNode_delNode_self (l : List NodeObj) (n : String) : getNode (delNode l n) n = none :=
  Named.get_del_self (nm := NodeObj.name) l n
theorem getNode_delNode_ne (l : List NodeObj) {k n : String} (h : n ≠ k) : getNode (delNode l k) n = getNode l n :=
  Named.get_del_ne (nm := NodeObj.name) l h
theorem getNode_append_ne (l : List NodeObj) (n : NodeObj) {x : String} (h : x ≠ n.name) :
    getNode (l ++ [n]) x = getNode l x := Named.get_append_ne (nm := NodeObj.name) l n h
theorem mem_delNode {l : List NodeObj} {n : String} {o : NodeObj} : o ∈ delNode l n ↔ o ∈ l ∧ o.name ≠ n :=
  Named.mem_del (nm := NodeObj.name)
theorem mem_putNode_iff {l : List NodeObj} {o x : NodeObj} : x ∈ putNode l o ↔ x = o ∨ (x ∈ l ∧ x.name ≠ o.name) :=
  Named.mem_put (nm := NodeObj.name)
theorem mem_putNode {l : List NodeObj} {o x : NodeObj} (h : x ∈ putNode l o) : x = o ∨ (x ∈ l ∧ x.name ≠ o.name) :=
  mem_putNode_iff.mp h
theorem mem_putNode_self (l : List NodeObj) (o : NodeObj) : o ∈ putNode l o := mem_putNode_iff.mpr (Or.inl rfl)
theorem mem_putNode_of_ne {l : List NodeObj} {o x : NodeObj} (hx : x ∈ l) (hn : x.name ≠ o.name) : x ∈ putNode l o :=
  mem_putNode_iff.mpr (Or.inr ⟨hx, hn⟩)
theorem getNode_isSome_of_mem {l : List NodeObj} {n : String} {g : NodeObj} (hg : g ∈ l) (hn : g.name = n) :
    ∃ g', getNode l n = some g' := Named.get_of_mem (nm := NodeObj.name) hg hn
theorem eq_of_nodup_names {l : List NodeObj} (h : (l.map (·.name)).Nodup) {x y : NodeObj} (hx : x ∈ l) (hy : y ∈ l)
    (hn : x.name = y.name) : x = y := Named.eq_of_nodup_names (nm := NodeObj.name) h hx hy hn
theorem putNode_self_eq {l : List NodeObj} (h : (l.map (·.name)).Nodup) {y : NodeObj} (hy : y ∈ l) : putNode l y = l :=
  Named.put_self_eq (nm := NodeObj.name) h hy
theorem putNode_names_nodup {l : List NodeObj} {o : NodeObj} (h : (l.map (·.name)).Nodup) :
    ((putNode l o).map (·.name)).Nodup := Named.put_names_nodup (nm := NodeObj.name) h
theorem delNode_names_nodup {l : List NodeObj} {n : String} (h : (l.map (·.name)).Nodup) :
    ((delNode l n).map (·.name)).Nodup := Named.del_names_nodup (nm := NodeObj.name) h

theorem mem_of_getCC {l : List CCObj} {n : String} {o : CCObj} (h : getCC l n = some o) : o ∈ l ∧ o.name = n :=
  Named.get_some (nm := CCObj.name) h
theorem getCC_putCC_self (l : List CCObj) (o : CCObj) : getCC (putCC l o) o.name = some o :=
  Named.get_put_self (nm := CCObj.name) l o
theorem getCC_putCC_ne (l : List CCObj) (o : CCObj) {n : String} (h : n ≠ o.name) : getCC (putCC l o) n = getCC l n :=
  Named.get_put_ne (nm := CCObj.name) l o h
theorem getCC_delCC_self (l : List CCObj) (n : String) : getCC (delCC l n) n = none :=
  Named.get_del_self (nm := CCObj.name) l n
theorem getCC_delCC_ne (l : List CCObj) {k n : String} (h : n ≠ k) : getCC (delCC l k) n = getCC l n :=
  Named.get_del_ne (nm := CCObj.name) l h
theorem getCC_append_ne (l : List CCObj) (n : CCObj) {x : String} (h : x ≠ n.name) : getCC (l ++ [n]) x = getCC l x :=
  Named.get_append_ne (nm := CCObj.name) l n h
theorem getCC_append_self (l : List CCObj) (o : CCObj) (h : getCC l o.name = none) : getCC (l ++ [o]) o.name = some o :=
  Named.get_append_self (nm := CCObj.name) l o h

theorem mem_qAdd {q : List String} {k x : String} : x ∈ qAdd q k ↔ x = k ∨ x ∈ q := by
  unfold qAdd
  split
  · rename_i h
    have hk : k ∈ q := by simpa using h
    exact ⟨Or.inr, fun h => h.elim (fun e => e ▸ hk) id⟩
  · simp [or_comm]

theorem mem_qDel {q : List String} {k x : String} : x ∈ qDel q k ↔ x ∈ q ∧ x ≠ k := by simp [qDel]

/-- the queue after a work item (`procNode`, `procCC`): the key is put back iff the sync failed -/
theorem mem_requeue {q : List String} {k x res : String} :
    x ∈ (if (res == "err") = true then qAdd q k else q) ↔ x ∈ q ∨ (res = "err" ∧ x = k) := by
  by_cases h : res = "err"
  · rw [if_pos (beq_iff_eq.mpr h), mem_qAdd, or_comm, and_iff_right h]
  · rw [if_neg (mt beq_iff_eq.mp h)]
    exact ⟨Or.inl, fun h' => h'.elim id fun h' => absurd h'.1 h⟩

theorem perm_sortNames (l : List String) : (sortNames l).Perm l :=
  foldr_insert_perm (insert_perm insertName (· < ·) (fun _ => rfl) (fun _ _ _ => rfl)) l

theorem mem_sortNames {x : String} {l : List String} : x ∈ sortNames l ↔ x ∈ l := (perm_sortNames l).mem_iff

theorem getNode_of_mem {l : List NodeObj} (h : (l.map (·.name)).Nodup) {v : NodeObj} (hv : v ∈ l) : getNode l v.name = some v := by
  obtain ⟨w, hg⟩ := getNode_isSome_of_mem hv rfl
  rw [hg, eq_of_nodup_names h (mem_of_getNode hg).1 hv (mem_of_getNode hg).2]

theorem sortCCObjs_get (l : List CCObj) : ∀ o ∈ sortCCObjs l, getCC l o.name = some o := by
  intro o ho
  obtain ⟨n, _, hn⟩ := List.mem_filterMap.mp ho
  rw [(mem_of_getCC hn).2]; exact hn

theorem mem_sortCCObjs (l : List CCObj) (o : CCObj) (h : o ∈ sortCCObjs l) : o ∈ l :=
  (mem_of_getCC (sortCCObjs_get l o h)).1

theorem sortCCObjs_complete (l : List CCObj) {n : String} {o : CCObj} (h : getCC l n = some o) : o ∈ sortCCObjs l :=
  List.mem_filterMap.mpr ⟨n, mem_sortNames.mpr (List.mem_map.mpr ⟨o, mem_of_getCC h⟩), h⟩

theorem mem_sortNodeObjs (l : List NodeObj) (o : NodeObj) (h : o ∈ sortNodeObjs l) : o ∈ l :=
  let ⟨_, _, hn⟩ := List.mem_filterMap.mp h
  (mem_of_getNode hn).1

theorem sortNodeObjs_nodup {l : List NodeObj} (h : (l.map (·.name)).Nodup) : ((sortNodeObjs l).map (·.name)).Nodup := by
  -- the names found are the names looked up: a sublist of the sorted names
  have e : (fun n => (getNode l n).map (·.name)) = Option.guard (fun n => (getNode l n).isSome) := by
    funext n
    cases hg : getNode l n with
    | none => simp [Option.guard, hg]
    | some o => simp [Option.guard, hg, (mem_of_getNode hg).2]
  unfold sortNodeObjs
  rw [List.map_filterMap, e, List.filterMap_eq_filter]
  exact ((perm_sortNames _).nodup_iff.mpr h).filter _

theorem sortNodeObjs_complete {l : List NodeObj} (h : (l.map (·.name)).Nodup) {v : NodeObj} (hv : v ∈ l) : v ∈ sortNodeObjs l :=
  List.mem_filterMap.mpr ⟨v.name, mem_sortNames.mpr (List.mem_map.mpr ⟨v, hv, rfl⟩), getNode_of_mem h hv⟩

end Ipam
