import IpamVerif.Safety
/-!
# Tightness: every used block is justified (C04 on the fragment of `Safety.lean`), and the walk through the events

`Tight s`: every block in use in a pool is a pod CIDR of a node *associated with that entry* — whose object is in
the API or is the recorded final state of a deleted node — or it meets a configured service range.  First what each kind
of change does to it (`Tight.move`, `tight_releaseCIDR`, `tight_assign`, …; the ingredients beyond `Safety.lean`: a release
frees *every* CIDR of the node in the entry it is associated with, `releaseNode_exact`; a re-sync marks nothing new,
`occupyNode_noop`; what `prioritizedCIDRs` leaves in use is what was in use plus exactly the CIDRs it returns,
`Grown.only` (`served_exact`); entries mapped anew have nothing in use).  Then every event of the fragment is taken apart once, for
`Inv` and `Tight` together (`both_step`): `inv_step` and `tight_step` are its two halves, `inv_run` and `tight_run` follow.
The branch "the cache already shows exactly these CIDRs" of `updateCIDRsAllocation` cannot be taken on the fragment (the
blocks would still be in use).
-/
namespace Ipam.Safety

/-- every used block is justified: it is a pod CIDR of a node associated with that entry (an API object, or the
final state of a deleted node whose delete notification is still to come), or it meets a configured service range -/
def Tight (s : Sys) : Prop :=
  ∀ j cd, UsedAt s.alloc j cd →
    (∃ x, Claims s.alloc x j ∧ ∃ v ∈ s.api.nodes ++ s.api.graves, v.name = x ∧ cd ∈ v.cidrs) ∨
    (∃ svc ∈ s.svcs, ¬ cd.Disjoint svc)

theorem tight_api {s s' : Sys} (hT : Tight s) (hal : s'.alloc = s.alloc) (hsv : s'.svcs = s.svcs)
    (hobj : ∀ x j, Claims s.alloc x j → ∀ v ∈ s.api.nodes ++ s.api.graves, v.name = x →
      ∃ v' ∈ s'.api.nodes ++ s'.api.graves, v'.name = x ∧ v'.cidrs = v.cidrs) : Tight s' := by
  intro j cd hu
  rw [hal] at hu
  rcases hT j cd hu with ⟨x, hc, v, hv, hvn, hcd⟩ | hsvc
  · left
    obtain ⟨v', hv', hvn', hvc'⟩ := hobj x j hc v hv hvn
    exact ⟨x, by rw [hal]; exact hc, v', hv', hvn', by rw [hvc']; exact hcd⟩
  · right; rw [hsv]; exact hsvc

/-- The allocator state goes from `s.alloc` to `a'` (entries renumbered by `φ`): nothing is in use that was not, the
associations of the nodes outside `R` are kept, and no block that an object of a node in `R` holds in the entry the node
was associated with is still in use -/
theorem Tight.move {s : Sys} (hT : Tight s) {a' : Alloc} {φ : Nat → Option Nat} {R : String → Prop} (view' : List NodeObj)
    (ubwd : ∀ j' cd, UsedAt a' j' cd → ∃ j, φ j = some j' ∧ UsedAt s.alloc j cd ∧
      ∀ v ∈ s.api.nodes ++ s.api.graves, R v.name → Claims s.alloc v.name j → cd ∉ v.cidrs)
    (fwd : ∀ y j, Claims s.alloc y j → ¬ R y → ∃ j', φ j = some j' ∧ Claims a' y j') :
    Tight { s with alloc := a', nodeView := view' } := by
  intro j' cd hu
  obtain ⟨j, hφ, hu0, hfree⟩ := ubwd j' cd hu
  refine (hT j cd hu0).imp (fun ⟨x, hcx, v, hv, hvn, hcd⟩ => ?_) id
  obtain ⟨j'', hφ', hcx'⟩ := fwd x j hcx (fun hr => hfree v hv (hvn ▸ hr) (hvn ▸ hcx) hcd)
  rw [hφ] at hφ'; cases hφ'
  exact ⟨x, hcx', v, hv, hvn, hcd⟩

theorem tight_shrink {s : Sys} (hT : Tight s) {a' : Alloc} (hle : AllocLe a' s.alloc) : Tight { s with alloc := a' } :=
  hT.move (φ := some) (R := fun _ => False) s.nodeView (fun j _ hu => ⟨j, rfl, usedAt_le hle hu, fun _ _ => False.elim⟩)
    (fun y j hc _ => ⟨j, rfl, (claims_le hle y j).mp hc⟩)

theorem Tight.congr {s s' : Sys} (h : Tight s) (hn : s'.api.nodes = s.api.nodes) (hg : s'.api.graves = s.api.graves)
    (hal : s'.alloc = s.alloc) (hsv : s'.svcs = s.svcs) : Tight s' :=
  tight_api h hal hsv fun _ _ _ v hv hvn => ⟨v, by rw [hn, hg]; exact hv, hvn, rfl⟩

/-- the release of an associated node goes through and frees every one of its CIDRs in the entry it is associated with -/
theorem releaseNode_frees {a : Alloc} (ha : a.WF) {x : String} {ls : Labels} {cs : List Cidr} (hcs : ∀ cd ∈ cs, cd.WF)
    (huniq : ∀ i j, Claims a x i → Claims a x j → i = j)
    (hel : ∀ i, Claims a x i → Elig a i ls)
    (hin : ∀ i, Claims a x i → ∀ cd ∈ cs, UsedAt a i cd)
    {a' : Alloc} {ok : Bool} (h : a.releaseNode x ls cs = (a', ok)) {i : Nat} (hci : Claims a x i) :
    ∀ cd ∈ cs, ¬ UsedAt a' i cd := by
  have _ := hcs  -- not needed: `hin` says more
  obtain ⟨a1, h1, _, _, _, hu, _⟩ := releaseNode_exact ha hci (fun j hj => huniq j i hj hci) (hel i hci) (hin i hci)
  rw [h] at h1; cases h1
  exact fun cd hcd hused => ((hu i cd).mp hused).2 ⟨rfl, hcd⟩

theorem tight_releaseCIDR {s : Sys} (h : Inv s) (hT : Tight s) (V : NodeObj) (hV : V ∈ Objs s)
    (hW : ∀ i, Claims s.alloc V.name i → V.cidrs ≠ []) (view' : List NodeObj) :
    Tight { s with alloc := (releaseCIDR s.alloc V).1, nodeView := view' } := by
  rcases releaseCIDR_cases h V hV hW with ⟨_, heq⟩ | ⟨i, hci, _, _, hcl, hus, _⟩
  · rw [heq]; exact hT.congr rfl rfl rfl rfl
  · refine hT.move (φ := some) (R := (· = V.name)) view' (fun j cd hu => ⟨j, rfl, ((hus j cd).mp hu).1, ?_⟩)
      (fun y j hc hne => ⟨j, rfl, (hcl y j).mpr ⟨hc, hne⟩⟩)
    -- a block an object of the released node holds, in the entry the node was associated with, has been given back
    intro v hv hvn hcv hcd
    have hv0 : v.cidrs ≠ [] := fun h0 => by rw [h0] at hcd; cases hcd
    rw [h.obj.coh v (mem_objs_of_holder hv) V hV hvn hv0 (hW i hci)] at hcd
    exact ((hus j cd).mp hu).2 ⟨h.uniq j i _ hcv (hvn ▸ hci), hcd⟩

theorem occupyNode_same (name : String) (cidrs : List Cidr) (i₀ : Nat) (hne : cidrs ≠ []) :
    ∀ (l : List Nat) (a : Alloc), a.WF → RangesDisj a → Claims a name i₀ → (∀ cd ∈ cidrs, UsedAt a i₀ cd) →
      AllocLe (a.occupyNode name cidrs l).1 a := by
  intro l a ha hrd hcl hused
  rw [occupyNode_noop name cidrs i₀ hne a ha hrd hcl hused l]
  exact AllocLe.refl a

/-- after `prioritizedCIDRs` served `cidrs` from entry `i`: what is in use is what was in use before, plus exactly these -/
theorem served_exact {a₀ al a'' : Alloc} (hwf : al.WF) {cidrs : List Cidr} {i : Nat}
    (hserved : ∀ cd ∈ cidrs, UsedAt al i cd ∧ cd.WF)
    (hback : al.releaseAll i cidrs = (a'', true)) (hle : AllocLe a'' a₀) {j : Nat} {cd : Cidr} (hu : UsedAt al j cd) :
    UsedAt a₀ j cd ∨ (j = i ∧ cd ∈ cidrs) := by
  obtain ⟨a', hra, _, _, hex⟩ := releaseAll_exact i cidrs al hwf fun cd hcd => usedAt_isBlock hwf (hserved cd hcd).1
  rw [hback] at hra; cases hra
  by_cases h : j = i ∧ cd ∈ cidrs
  · exact Or.inr h
  · exact Or.inl (usedAt_le hle ((hex j cd).mpr ⟨hu, h⟩))

theorem tight_assign {s₀ : Sys} (hT : Tight s₀) {al : Alloc} (hle : AllocLe s₀.alloc al)
    {name : String} {cidrs : List Cidr} {i : Nat}
    (hex : ∀ j cd, UsedAt al j cd → UsedAt s₀.alloc j cd ∨ (j = i ∧ cd ∈ cidrs))
    (hnodup : (s₀.api.nodes.map (·.name)).Nodup)
    (y : NodeObj) (hy : getNode s₀.api.nodes name = some y) (hyc : y.cidrs = [] ∨ y.cidrs = cidrs)
    (c : CC) (hc : al.get? i = some c) :
    Tight { s₀ with api := { s₀.api with nodes := putNode s₀.api.nodes { y with cidrs := cidrs } },
                    alloc := al.set i (c.addAssoc name) } := by
  obtain ⟨hym, hyn⟩ := mem_of_getNode hy
  intro j cd hu
  have hu1 := (usedAt_addAssoc hc name j cd).mp hu
  rcases hex j cd hu1 with hu0 | ⟨hji, hcd⟩
  · rcases hT j cd hu0 with ⟨x, hcx, v, hvm, hvn, hvc⟩ | hsvc
    · left
      refine ⟨x, (claims_addAssoc hc name x j).mpr (Or.inl ((claims_le hle x j).mpr hcx)), ?_⟩
      rcases List.mem_append.mp hvm with hvm | hvm
      · by_cases he : v.name = y.name
        · have : v = y := eq_of_nodup_names hnodup hvm hym he
          subst this
          refine ⟨{ v with cidrs := cidrs }, List.mem_append_left _ (mem_putNode_self _ _), hvn, ?_⟩
          rcases hyc with h0 | h0
          · rw [h0] at hvc; cases hvc
          · rw [h0] at hvc; exact hvc
        · exact ⟨v, List.mem_append_left _ (mem_putNode_of_ne hvm he), hvn, hvc⟩
      · exact ⟨v, List.mem_append_right _ hvm, hvn, hvc⟩
    · exact Or.inr hsvc
  · left
    subst hji
    exact ⟨name, (claims_addAssoc hc name name j).mpr (Or.inr ⟨rfl, rfl⟩), { y with cidrs := cidrs },
      List.mem_append_left _ (mem_putNode_self _ _), hyn, hcd⟩

theorem tight_remap {s : Sys} (hT : Tight s) {a' : Alloc} {φ : Nat → Option Nat} (hr : Remap s.alloc a' φ)
    (hback : ∀ j' cd, UsedAt a' j' cd → ∃ j, φ j = some j' ∧ UsedAt s.alloc j cd) : Tight { s with alloc := a' } :=
  hT.move (R := fun _ => False) s.nodeView (fun j' cd hu => (hback j' cd hu).imp fun _ h => ⟨h.1, h.2, fun _ _ => False.elim⟩)
    (fun _ _ hc _ => hr.claims_fwd hc)

theorem buildPool_unused {fld : RangeField} {want : Fam} {hb : Int} {p : Pool} (h : buildPool fld want hb = some (some p)) :
    p.used = [] := by
  obtain ⟨_, _, _, _, _, _, rfl⟩ := buildPool_eq_some h
  rfl

theorem buildCC_unused {key : String} {reqs : List Req} {name : String} {spec : CCSpec} {t : Bool} {c : CC}
    (h : buildCC key reqs name spec t = some c) : ∀ f p, c.pool f = some p → p.used = [] := by
  obtain ⟨p4, p6, h4, h6, _, rfl⟩ := buildCC_eq_some h
  intro f p hp
  cases f with
  | v4 => exact buildPool_unused (show buildPool spec.ipv4 .v4 spec.hostBits = some (some p) from hp ▸ h4)
  | v6 => exact buildPool_unused (show buildPool spec.ipv6 .v6 spec.hostBits = some (some p) from hp ▸ h6)

/-! ## every event of the fragment keeps both invariants

`Keeps s s'`: the change from `s` to `s'` keeps `Inv`, and `Tight` with it.  What an event does is read off the case lemmas
(`step_*`, `procNode_eq`, `procNodeCore_cases`, `allocate_cases`, `update_cases`, …); each leaf is one of the changes the two
invariants have a lemma for. -/

def Keeps (s s' : Sys) : Prop := Inv s' ∧ (Tight s → Tight s')

theorem keeps_refl {s : Sys} (h : Inv s) : Keeps s s := ⟨h, id⟩

theorem Keeps.trans {s s' s'' : Sys} (h : Keeps s s') (h' : Keeps s' s'') : Keeps s s'' := ⟨h'.1, fun hT => h'.2 (h.2 hT)⟩

theorem Keeps.congr {s s' s'' : Sys} (h : Keeps s s') (hn : s''.api.nodes = s'.api.nodes) (hg : s''.api.graves = s'.api.graves)
    (hv : s''.nodeView = s'.nodeView) (hal : s''.alloc = s'.alloc) (hsv : s''.svcs = s'.svcs) : Keeps s s'' :=
  ⟨h.1.congr' hn hg hv hal, fun hT => (h.2 hT).congr hn hg hal hsv⟩

theorem keeps_eqv {s : Sys} (h : Inv s) {a' : Alloc} (he : AllocEqv s.alloc a') (hwf : a'.WF) : Keeps s { s with alloc := a' } :=
  ⟨inv_alloc_grow h a' he.1 hwf, fun hT => tight_shrink hT he.2⟩

/-! ### events on API objects

What the two invariants share in each of them is where the objects of the associated nodes are afterwards (the local `hNG`): `own`
and `Tight` follow from that, the clauses that read the nodes alone see fewer or similar objects, and the rest is about
the one object the event touches. -/

theorem keeps_nodeAdd {s : Sys} (h : Inv s) (n : NodeObj) (hc : n.cidrs = []) (hj : n.junk = false)
    (hv : getNode s.nodeView n.name = none) (ha : getNode s.api.nodes n.name = none) : Keeps s (step s (.nodeAdd n)).1 := by
  rw [show (step s (.nodeAdd n)).1 =
    { s with api := { s.api with nodes := s.api.nodes ++ [n], graves := delNode s.api.graves n.name } } by
      dsimp only [step]; rw [ha]; rfl]
  have hapi := getNode_none_iff.mp ha
  have hview := getNode_none_iff.mp hv
  have hncl : ∀ i, ¬ Claims s.alloc n.name i := fun i hci =>
    let ⟨v, hvm, hvn⟩ := h.pend i _ hci; hview v hvm hvn
  have hN : ∀ y ∈ s.api.nodes ++ [n], y ∈ s.api.nodes ∨ y = n := fun y hy =>
    (List.mem_append.mp hy).imp_right List.mem_singleton.mp
  -- a final state on record under the new node's name goes; no association hangs on it, the cache does not know the name
  have hNG : ∀ x i, Claims s.alloc x i → ∀ v ∈ s.api.nodes ++ s.api.graves, v.name = x →
      v ∈ (s.api.nodes ++ [n]) ++ delNode s.api.graves n.name := by
    intro x i hci v hvm hvn
    rcases List.mem_append.mp hvm with hvm | hvm
    · exact List.mem_append_left _ (List.mem_append_left _ hvm)
    · exact List.mem_append_right _ (mem_delNode.mpr ⟨hvm, fun he => hncl i (he ▸ hvn ▸ hci)⟩)
  refine ⟨⟨h.wf, h.rd, ?_, h.nodupView, delNode_names_nodup h.nodupGraves, ?_, ?_, ?_, ?_, ?_, h.uniq, ?_, h.pend⟩,
    fun hT => tight_api hT rfl rfl fun x j hcx v hvm hvn => ⟨v, hNG x j hcx v hvm hvn, hvn, rfl⟩⟩
  · show ((s.api.nodes ++ [n]).map (·.name)).Nodup
    rw [List.map_append, List.nodup_append]
    refine ⟨h.nodupApi, List.pairwise_singleton _ _, fun a ha' b hb he => ?_⟩
    obtain ⟨y, hy, hyn⟩ := List.mem_map.mp ha'
    exact hapi y hy (hyn.trans (he.trans (List.mem_singleton.mp hb)))
  · intro v hvm
    rcases h.graveOrApi v hvm with ⟨y, hy, hyn⟩ | ⟨g, hg, hgn⟩
    · exact Or.inl ⟨y, List.mem_append_left _ hy, hyn⟩
    · exact Or.inr ⟨g, mem_delNode.mpr ⟨hg, fun he => hview v hvm (hgn ▸ he)⟩, hgn⟩
  · refine h.obj.add_fresh n hc hj hncl fun o ho => ?_
    rcases mem_objs.mp ho with ho | ho | ho
    · exact (hN o ho).symm.imp_right fun ho => ⟨mem_objs.mpr (Or.inl ho), hapi o ho⟩
    · exact Or.inr ⟨mem_objs.mpr (Or.inr (Or.inl ho)), hview o ho⟩
    · exact Or.inr ⟨mem_objs.mpr (Or.inr (Or.inr (mem_delNode.mp ho).1)), (mem_delNode.mp ho).2⟩
  · intro v hvm y hy hn hd
    rcases hN y hy with hy | rfl
    · exact h.delMono v hvm y hy hn hd
    · exact absurd hn (hview v hvm)
  · intro g hg y hy
    rcases hN y hy with hy | rfl
    · exact h.gravesFresh g (mem_delNode.mp hg).1 y hy
    · exact (mem_delNode.mp hg).2
  · intro i x hci
    obtain ⟨v, hvm, hvn, hv⟩ := h.own i x hci
    exact ⟨v, hNG x i hci v hvm hvn, hvn, hv⟩
  · intro v hvm hv0 hcond
    rcases List.mem_append.mp hvm with hvm | hvm
    · rcases hN v hvm with hvm | rfl
      · exact h.held v (List.mem_append_left _ hvm) hv0 hcond
      · exact absurd hc hv0
    · exact h.held v (List.mem_append_right _ hvm) hv0 hcond

theorem keeps_nodeDel {s : Sys} (h : Inv s) (name : String) : Keeps s (step s (.nodeDel name)).1 := by
  cases hg : getNode s.api.nodes name with
  | none => rw [show (step s (.nodeDel name)).1 = s by dsimp only [step]; rw [hg]]; exact keeps_refl h
  | some y =>
    rw [show (step s (.nodeDel name)).1 =
      { s with api := { s.api with nodes := delNode s.api.nodes name, graves := putNode s.api.graves y } } by dsimp only [step]; rw [hg]]
    obtain ⟨hym, hyn⟩ := mem_of_getNode hg
    -- the object moves from the nodes to the final states: together they hold what they held
    have hNG : ∀ v ∈ s.api.nodes ++ s.api.graves, v ∈ delNode s.api.nodes name ++ putNode s.api.graves y := by
      intro v hv
      rcases List.mem_append.mp hv with hv | hv
      · by_cases he : v.name = name
        · exact List.mem_append_right _ (eq_of_nodup_names h.nodupApi hv hym (he.trans hyn.symm) ▸ mem_putNode_self _ _)
        · exact List.mem_append_left _ (mem_delNode.mpr ⟨hv, he⟩)
      · exact List.mem_append_right _ (mem_putNode_of_ne hv (h.gravesFresh v hv y hym))
    have hG : ∀ g ∈ putNode s.api.graves y, g = y ∨ g ∈ s.api.graves := fun g hg => (mem_putNode hg).imp_right (·.1)
    refine ⟨⟨h.wf, h.rd, delNode_names_nodup h.nodupApi, h.nodupView, putNode_names_nodup h.nodupGraves, ?_, h.obj.subset ?_,
      fun v hv z hz => h.delMono v hv z (mem_delNode.mp hz).1, ?_, ?_, h.uniq, ?_, h.pend⟩,
      fun hT => tight_api hT rfl rfl fun x j _ v hv hvn => ⟨v, hNG v hv, hvn, rfl⟩⟩
    · intro v hvm
      obtain ⟨z, hz, hzn⟩ : ∃ z ∈ s.api.nodes ++ s.api.graves, z.name = v.name :=
        (h.graveOrApi v hvm).elim (fun ⟨z, hz, e⟩ => ⟨z, List.mem_append_left _ hz, e⟩) (fun ⟨z, hz, e⟩ => ⟨z, List.mem_append_right _ hz, e⟩)
      exact (List.mem_append.mp (hNG z hz)).imp (fun hz => ⟨z, hz, hzn⟩) (fun hz => ⟨z, hz, hzn⟩)
    · intro o ho
      rcases mem_objs.mp ho with ho | ho | ho
      · exact mem_objs.mpr (Or.inl (mem_delNode.mp ho).1)
      · exact mem_objs.mpr (Or.inr (Or.inl ho))
      · exact mem_objs.mpr ((hG o ho).elim (fun e => Or.inl (e ▸ hym)) (fun ho => Or.inr (Or.inr ho)))
    · intro g hgm z hz
      have hz' := mem_delNode.mp hz
      exact (hG g hgm).elim (fun e he => hz'.2 ((e ▸ he : y.name = z.name) ▸ hyn)) (fun hgm => h.gravesFresh g hgm z hz'.1)
    · intro i x hci
      obtain ⟨v, hvm, hv⟩ := h.own i x hci
      exact ⟨v, hNG v hvm, hv⟩
    · intro v hvm hv0 hcond
      exact h.held v (List.mem_append.mpr ((List.mem_append.mp hvm).imp_left fun hv => (mem_delNode.mp hv).1)) hv0 hcond

theorem keeps_nodeDeleting {s : Sys} (h : Inv s) (name : String) : Keeps s (step s (.nodeDeleting name)).1 := by
  cases hg : getNode s.api.nodes name with
  | none => rw [show (step s (.nodeDeleting name)).1 = s by dsimp only [step]; rw [hg]]; exact keeps_refl h
  | some y =>
    rw [show (step s (.nodeDeleting name)).1 =
      { s with api := { s.api with nodes := putNode s.api.nodes { y with deleting := true } } } by dsimp only [step]; rw [hg]]
    obtain ⟨hym, hyn⟩ := mem_of_getNode hg
    have hsim : Sim { y with deleting := true } y := ⟨rfl, rfl, rfl, rfl⟩
    -- every node object has a twin with the same name and pod CIDRs afterwards, and the other way round
    have hNG : ∀ v ∈ s.api.nodes, ∃ v' ∈ putNode s.api.nodes { y with deleting := true }, Sim v' v := by
      intro v hvm
      by_cases he : v.name = y.name
      · exact ⟨_, mem_putNode_self _ _, eq_of_nodup_names h.nodupApi hvm hym he ▸ hsim⟩
      · exact ⟨v, mem_putNode_of_ne hvm he, Sim.refl v⟩
    have hGN : ∀ z ∈ putNode s.api.nodes { y with deleting := true }, (z = { y with deleting := true }) ∨ z ∈ s.api.nodes :=
      fun z hz => (mem_putNode hz).imp_right (·.1)
    refine ⟨⟨h.wf, h.rd, putNode_names_nodup h.nodupApi, h.nodupView, h.nodupGraves, ?_, h.obj.of_sim ?_, ?_, ?_, ?_, h.uniq, ?_,
      h.pend⟩, fun hT => tight_api hT rfl rfl fun x j _ v hvm hvn => ?_⟩
    · intro v hvm
      refine (h.graveOrApi v hvm).imp_left fun ⟨z, hz, hzn⟩ => ?_
      obtain ⟨z', hz', hs⟩ := hNG z hz
      exact ⟨z', hz', hs.1.trans hzn⟩
    · intro o ho
      rcases mem_objs.mp ho with ho | ho | ho
      · exact (hGN o ho).elim (fun e => ⟨y, mem_objs.mpr (Or.inl hym), e ▸ hsim⟩) (fun ho => ⟨o, mem_objs.mpr (Or.inl ho), Sim.refl o⟩)
      · exact ⟨o, mem_objs.mpr (Or.inr (Or.inl ho)), Sim.refl o⟩
      · exact ⟨o, mem_objs.mpr (Or.inr (Or.inr ho)), Sim.refl o⟩
    · intro v hv z hz hn hd
      exact (hGN z hz).elim (fun e => e ▸ rfl) (fun hz => h.delMono v hv z hz hn hd)
    · intro g hgm z hz
      exact (hGN z hz).elim (fun e => e ▸ h.gravesFresh g hgm y hym) (fun hz => h.gravesFresh g hgm z hz)
    · intro i x hci
      obtain ⟨v, hvm, hvn, hv0, hu⟩ := h.own i x hci
      rcases List.mem_append.mp hvm with hvm | hvm
      · obtain ⟨v', hv', hs⟩ := hNG v hvm
        exact ⟨v', List.mem_append_left _ hv', hs.name.trans hvn, hs.cidrs ▸ hv0, hs.cidrs ▸ hu⟩
      · exact ⟨v, List.mem_append_right _ hvm, hvn, hv0, hu⟩
    · intro v hvm hv0 hcond
      rcases List.mem_append.mp hvm with hvm | hvm
      · rcases hGN v hvm with rfl | hvm
        · exact h.held y (List.mem_append_left _ hym) hv0 (Or.inr (hcond.resolve_left (by simp)))
        · exact h.held v (List.mem_append_left _ hvm) hv0 hcond
      · exact h.held v (List.mem_append_right _ hvm) hv0 hcond
    · rcases List.mem_append.mp hvm with hvm | hvm
      · obtain ⟨v', hv', hs⟩ := hNG v hvm
        exact ⟨v', List.mem_append_left _ hv', hs.name.trans hvn, hs.cidrs⟩
      · exact ⟨v, List.mem_append_right _ hvm, hvn, rfl⟩

theorem keeps_view_put {s : Sys} (h : Inv s) (name : String) (cur : NodeObj) (hg : getNode s.api.nodes name = some cur) :
    Keeps s { s with nodeView := putNode s.nodeView cur } :=
  ⟨inv_view_put h name cur hg, fun hT => hT.congr rfl rfl rfl rfl⟩

theorem keeps_releaseCIDR {s : Sys} (h : Inv s) (V : NodeObj) (hV : V ∈ Objs s)
    (hW : ∀ i, Claims s.alloc V.name i → V.cidrs ≠ [])
    (view' : List NodeObj) (hsub : ∀ v ∈ view', v ∈ s.nodeView) (hkeep : ∀ v ∈ s.nodeView, v.name ≠ V.name → v ∈ view')
    (hnd : (view'.map (·.name)).Nodup)
    (hliveA : ∀ y ∈ s.api.nodes, y.name = V.name → y.deleting = true ∨ y.cidrs = [])
    (hliveV : ∀ v ∈ view', v.name = V.name → v.deleting = true) :
    Keeps s { s with alloc := (releaseCIDR s.alloc V).1, nodeView := view' } :=
  ⟨inv_releaseCIDR h V hV hW view' hsub hkeep hnd hliveA hliveV, fun hT => tight_releaseCIDR h hT V hV hW view'⟩

/-- the cache drops a node that no longer exists and the delete handler releases its final pod CIDRs -/
theorem keeps_gone {s : Sys} (h : Inv s) (name : String) (hg : getNode s.api.nodes name = none) (stale : NodeObj)
    (hv : getNode s.nodeView name = some stale) :
    Keeps s { s with alloc := (releaseCIDR s.alloc ((getNode s.api.graves name).getD stale)).1, nodeView := delNode s.nodeView name } := by
  obtain ⟨hsm, hsn⟩ := mem_of_getNode hv
  have hapi := getNode_none_iff.mp hg
  -- the final state of the node is on record
  obtain ⟨g, hgm, hgn⟩ := (h.graveOrApi stale hsm).resolve_left fun ⟨y, hy, hyn⟩ => hapi y hy (hyn.trans hsn)
  obtain ⟨g', hg'⟩ := getNode_isSome_of_mem hgm (hgn.trans hsn)
  obtain ⟨hg'm, hg'n⟩ := mem_of_getNode hg'
  rw [hg', Option.getD_some]
  refine keeps_releaseCIDR h g' (List.mem_append_right _ hg'm) (fun i hci => ?_) _ (fun v hvm => (mem_delNode.mp hvm).1)
    (fun v hvm hne => mem_delNode.mpr ⟨hvm, hg'n ▸ hne⟩) (delNode_names_nodup h.nodupView)
    (fun v hvm hvn => absurd (hvn.trans hg'n) (hapi v hvm)) (fun v hvm hvn => absurd (hvn.trans hg'n) (mem_delNode.mp hvm).2)
  obtain ⟨w, hwm, hwn, hw0, _⟩ := h.own i _ hci
  rcases List.mem_append.mp hwm with hwm | hwm
  · exact absurd (hwn.trans hg'n) (hapi w hwm)
  · rw [← eq_of_nodup_names h.nodupGraves hwm hg'm hwn]; exact hw0

/-- **the second half of an allocation item**, from the state `sB` the item read (cache possibly refreshed), after
`prioritizedCIDRs` turned the allocator state into `al` by serving `cidrs` from entry `i`: the reservation is given back
and nothing is written, or the server accepted the write and the association is recorded.  The branch "the cache already
shows exactly these CIDRs" is excluded by the caller (`hbranch`): the blocks would still be in use. -/
theorem keeps_update {sB : Sys} (hB : Inv sB) {al : Alloc} {name : String} {cidrs : List Cidr} {i : Nat}
    (g : Grown sB.alloc al i cidrs) (hne : cidrs ≠ [])
    (hEl : ∀ v ∈ Objs sB, v.name = name → Elig sB.alloc i v.labels)
    (hbranch : ∀ n2, getNode sB.nodeView name = some n2 → ¬ (n2.junk = false ∧ n2.cidrs = cidrs))
    (ws : List WOut) (hws : ∀ w ∈ ws.take 3, w ≠ WOut.lost) :
    Keeps sB (updateCIDRsAllocation { sB with alloc := al } name cidrs i ws).1 := by
  obtain ⟨cd0, hcd0⟩ := List.exists_mem_of_ne_nil _ hne
  have hfresh : ∀ cd ∈ cidrs, ∀ j cd', UsedAt sB.alloc j cd' → cd'.fam = cd.fam → cd.Disjoint cd' := fun cd hcd j cd' hu hf =>
    g.disjoint hB.wf hcd hu hf
  have hgive : Keeps sB { sB with alloc := (al.releaseAll i cidrs).1 } := by
    obtain ⟨a'', hback, heqv, hwf''⟩ := g.undo hB.wf
    rw [hback]; exact keeps_eqv hB heqv hwf''
  rcases update_cases { sB with alloc := al } name cidrs i with
    ⟨_, e⟩ | ⟨n2, hv, ⟨hj, hc, _⟩ | ⟨_, _, e⟩ | ⟨_, hn2, e⟩⟩
  · rw [e]; exact hgive
  · exact absurd ⟨hj, hc⟩ (hbranch n2 hv)
  · rw [e]; exact hgive
  · rw [e]
    split
    · rename_i hok
      obtain ⟨hacc, hapi⟩ := patchLoop_ok hok
      obtain ⟨c, _, _, hc, _⟩ := g.used cd0 hcd0
      obtain ⟨hn2m, hn2n⟩ := mem_of_getNode hv
      -- the object the server changed
      obtain ⟨y, hy, hyc, hpatch⟩ : ∃ y, getNode sB.api.nodes name = some y ∧ (y.cidrs = [] ∨ y.cidrs = cidrs) ∧
          (sB.api.patchNode name cidrs).1 = { sB.api with nodes := putNode sB.api.nodes { y with cidrs := cidrs } } := by
        rcases patchNode_cases sB.api name cidrs with hsame | ⟨y, hy, hy0, hp⟩
        · obtain ⟨y, hy, _, hyc⟩ := patchNode_accepted hacc
          rw [hsame] at hy
          have hyy : ({ y with cidrs := cidrs } : NodeObj) = y := by cases y; simp only at hyc; simp [hyc]
          exact ⟨y, hy, Or.inr hyc, by rw [hsame, hyy, putNode_self_eq hB.nodupApi (mem_of_getNode hy).1]⟩
        · exact ⟨y, hy, Or.inl (hasCidrs_false hy0).2, by rw [hp]⟩
      obtain ⟨hym, hyn⟩ := mem_of_getNode hy
      simp only at hapi hpatch
      simp only [hapi, hpatch, Alloc.assoc_of_get hc]
      -- the node is associated with nothing: what its API object holds is nothing, or the fresh blocks, and those are not in use
      have hUn : ∀ j, ¬ Claims al name j := by
        intro j hcj
        obtain ⟨w, hwm, hwn, hw0, hu⟩ := hB.own j name ((claims_le g.le name j).mp hcj)
        rcases List.mem_append.mp hwm with hwm | hwm
        · rw [eq_of_nodup_names hB.nodupApi hwm hym (hwn.trans hyn.symm)] at hw0 hu
          exact Cidr.not_disjoint_self cd0 (hfresh cd0 hcd0 j cd0 (hu cd0 (hyc.resolve_left hw0 ▸ hcd0)) rfl)
        · exact hB.gravesFresh w hwm y hym (hwn.trans hyn.symm)
      constructor
      · refine inv_assign (sP := { sB with alloc := al }) (inv_alloc_grow hB al g.le g.wf) hne
          (fun cd hcd => ⟨g.used cd hcd, g.cidr_WF hB.wf hcd⟩)
          ?_ (fun v hv hvn => elig_le g.le (hEl v hv hvn)) ⟨n2, hn2m, hn2n⟩ ?_ hUn y hy c hc
        · -- the fresh blocks meet nothing any associated node holds
          intro x j hcx v hv hvx a ha b hb hab
          obtain ⟨w, hwm, hwn, hw0, hu⟩ := hB.own j x ((claims_le g.le x j).mp hcx)
          rw [hB.obj.coh v hv w (mem_objs_of_holder hwm) (hvx.trans hwn.symm) (fun h0 => by rw [h0] at hb; cases hb) hw0] at hb
          exact hfresh a ha j b (hu b hb) hab.symm
        · intro v hvm hvn
          rw [eq_of_nodup_names hB.nodupView hvm hn2m (hvn.trans hn2n.symm)]; exact (hasCidrs_false hn2).2
      · exact fun hT => tight_assign hT g.le g.only hB.nodupApi y hy hyc c hc
    · rename_i hfail
      simp only [patchLoop_failed hws ((Bool.not_eq_true _).mp hfail)]
      exact hgive

theorem keeps_allocateOrOccupy {s : Sys} (h : Inv s) (n : NodeObj) (hn : n ∈ s.nodeView) (hnd : n.deleting = false)
    (refresh : Bool) (ws : List WOut) (hws : ∀ w ∈ ws.take 3, w ≠ WOut.lost) :
    Keeps s (allocateOrOccupy s n refresh ws).1 := by
  have hno : n ∈ Objs s := List.mem_append_left _ (List.mem_append_right _ hn)
  have hvn : getNode s.nodeView n.name = some n := getNode_of_mem h.nodupView hn
  rcases allocate_cases s n refresh with ⟨hc, e⟩ | ⟨hc, al, r, hp, hr⟩
  · -- the cached node has pod CIDRs: re-sync, which changes nothing
    simp only [e, occupyCIDRs_noop h hn hnd hc]
    exact keeps_refl h
  · have hn0 : n.cidrs = [] := (hasCidrs_false hc).2
    have att := prioritized_attempt h.wf _ hp
    rcases hr with ⟨hr, e⟩ | ⟨cidrs, i, rfl, hne, hr⟩
    · -- nothing served (an entry without pools "serves" the empty list)
      rw [e]
      obtain ⟨heqv, hwf'⟩ := C04.refused_attempt_reserves_nothing h.wf hp hr
      exact keeps_eqv h heqv hwf'
    · obtain ⟨hil, g⟩ := att
      obtain ⟨cd0, hcd0⟩ := List.exists_mem_of_ne_nil _ hne
      have hEl0 : ∀ v ∈ Objs s, v.name = n.name → Elig s.alloc i v.labels := fun v hv hvn => by
        rw [h.obj.lab v hv n hno hvn]; exact elig_of_mem_ordered hil
      rcases hr with ⟨_, e⟩ | ⟨_, cur, hg, e⟩ | ⟨_, hg, e⟩
      · rw [e]
        refine keeps_update h g hne hEl0 (fun n2 hn2 hcc => ?_) ws hws
        rw [hvn] at hn2; cases hn2
        exact hne (hcc.2 ▸ hn0)
      · -- the cache catches up in the middle of the item
        rw [e]
        obtain ⟨hcm, hcn⟩ := mem_of_getNode hg
        have hK := (keeps_view_put h n.name cur hg).congr
          (s'' := { s with nodeView := putNode s.nodeView cur, nodeQ := qAdd s.nodeQ n.name }) rfl rfl rfl rfl rfl
        refine hK.trans (keeps_update hK.1 g hne (fun v hv => hEl0 v (objs_view_put hcm hv)) ?_ ws hws)
        intro n2 hn2
        have : getNode (putNode s.nodeView cur) n.name = some cur := hcn ▸ getNode_putNode_self _ _
        simp only at hn2
        rw [this] at hn2; cases hn2
        rintro ⟨_, hcc⟩
        -- the API object would hold exactly the fresh blocks: but as long as the cache shows the node alive they are in use
        obtain ⟨i', _, hu'⟩ := h.held cur (List.mem_append_left _ hcm) (hcc ▸ hne) (Or.inr ⟨n, hn, hcn.symm, hnd⟩)
        exact Cidr.not_disjoint_self cd0 (g.disjoint h.wf hcd0 (hu' cd0 (hcc ▸ hcd0)) rfl)
      · -- the node left the cache: the item fails on its second read and gives the reservation back; then the delete handler runs
        obtain ⟨a'', hback, heqv, hwf''⟩ := g.undo h.wf
        simp only [e, hback]
        exact (keeps_eqv h heqv hwf'').trans
          ((keeps_gone (s := { s with alloc := a'' }) (inv_alloc_grow h a'' heqv.1 hwf'') n.name hg n hvn).congr rfl rfl rfl rfl rfl)

theorem keeps_procNode {s : Sys} (h : Inv s) (name : String) (refresh : Bool) (ws : List WOut)
    (hws : ∀ w ∈ ws.take 3, w ≠ WOut.lost) : Keeps s (procNode s name refresh ws).1 := by
  have h0 : Keeps s { s with nodeQ := qDel s.nodeQ name } := (keeps_refl h).congr rfl rfl rfl rfl rfl
  suffices key : Keeps s (procNodeCore { s with nodeQ := qDel s.nodeQ name } name refresh ws).1 by
    rw [procNode_eq]; exact key.congr rfl rfl rfl rfl rfl
  refine h0.trans ?_
  rcases procNodeCore_cases { s with nodeQ := qDel s.nodeQ name } name refresh with ⟨_, e⟩ | ⟨n, hv, _, ⟨hd, e⟩ | ⟨hd, e⟩⟩ <;> rw [e]
  · exact keeps_refl h0.1
  · -- a node under deletion: release
    obtain ⟨hnm, _⟩ := mem_of_getNode hv
    have hno : n ∈ Objs s := List.mem_append_left _ (List.mem_append_right _ hnm)
    by_cases hc : n.cidrs = []
    · have : (releaseCIDR s.alloc n).1 = s.alloc := by unfold releaseCIDR NodeObj.hasCidrs; simp [h.obj.nojunk n hno, hc]
      simp only [this]; exact keeps_refl h0.1
    · exact (keeps_releaseCIDR h0.1 n hno (fun _ _ => hc) s.nodeView (fun _ hv => hv) (fun _ hv _ => hv) h.nodupView
        (fun y hy hyn => Or.inl (h.delMono n hnm y hy hyn.symm hd))
        (fun v hv hvn => by rw [eq_of_nodup_names h.nodupView hv hnm hvn]; exact hd)).congr rfl rfl rfl rfl rfl
  · exact keeps_allocateOrOccupy h0.1 n (mem_of_getNode hv).1 hd refresh ws hws

theorem keeps_createCC {s : Sys} (h : Inv s) {name : String} {spec : CCSpec} {t : Bool} (hs : C09.SpecOK spec)
    {al : Alloc} (hc : s.alloc.createCC name spec t = some al) (hrd : RangesDisj al) : Keeps s { s with alloc := al } := by
  have hwf := C09.createCC_WF h.wf hs hc
  obtain ⟨reqs, _, ⟨_, rfl⟩ | ⟨_, c, hb, rfl⟩⟩ := Alloc.createCC_eq_some hc
  · exact keeps_refl h
  · have hr := remap_append s.alloc c (buildCC_assoc hb)
    exact ⟨inv_remap h hr hwf hrd, fun hT => tight_remap hT hr fun j cd hu => ⟨j, rfl, usedAt_append (buildCC_unused hb) hu⟩⟩

theorem keeps_deleteCC {s : Sys} (h : Inv s) (name : String) (spec : CCSpec) :
    Keeps s { s with alloc := (s.alloc.deleteCC name spec).1 } := by
  rcases s.alloc.deleteCC_cases name spec with h1 | ⟨i, c, hg, h2⟩ | ⟨i, c, hg, ha, h3⟩
  · rw [h1]; exact keeps_refl h
  · -- marked terminating
    rw [h2]
    have hr := remap_set_term s.alloc i c hg
    exact ⟨inv_remap h hr (Alloc.WF_set h.wf fun g p hp => h.wf i c hg g p (term_pool c true g ▸ hp))
        (rangesDisj_set_pools hg (term_pool c true) h.rd),
      fun hT => tight_remap hT hr fun j cd hu => ⟨j, rfl, (usedAt_set_pools hg (term_pool c true) j cd).mp hu⟩⟩
  · -- unmapped
    rw [h3]
    have hr := remap_erase s.alloc i c hg ha
    refine ⟨inv_remap h hr (fun k e he => h.wf _ e (Alloc.get?_eraseIdx s.alloc i k ▸ he)) ?_, fun hT => tight_remap hT hr ?_⟩
    · intro j j' d d' f p q hj hj' hp hq hne
      rw [Alloc.get?_eraseIdx] at hj hj'
      -- distinct positions were distinct before: `dropMap i` takes the old ones back
      exact h.rd _ _ d d' f p q hj hj' hp hq fun e =>
        hne (Option.some.inj ((dropMap_lift i j).symm.trans ((congrArg (dropMap i) e).trans (dropMap_lift i j'))))
    · rintro j' cd ⟨d, p, k, hd', hu⟩
      rw [Alloc.get?_eraseIdx] at hd'
      exact ⟨_, dropMap_lift i j', d, p, k, hd', hu⟩

theorem keeps_procCC {s : Sys} (h : Inv s) (name : String) (w : WOut)
    (hnew : ∀ obj, getCC s.ccView name = some obj → obj.deleting = false → NewCCOK s obj) : Keeps s (procCC s name w).1 := by
  have h0 : Keeps s { s with ccQ := qDel s.ccQ name } := (keeps_refl h).congr rfl rfl rfl rfl rfl
  suffices key : Keeps s (procCCCore { s with ccQ := qDel s.ccQ name } name w).1 by
    rw [procCC_eq]; exact key.congr rfl rfl rfl rfl rfl
  have hitem := procCCCore_item { s with ccQ := qDel s.ccQ name } name w
  obtain ⟨hn, hg⟩ := hitem.nodes_graves
  refine h0.trans ?_
  rcases hitem.alloc with e | ⟨o, _, e⟩ | ⟨o, al, hv, hd, hc, e⟩
  · exact (keeps_refl h0.1).congr hn hg hitem.nodeView e hitem.svcs
  · exact (keeps_deleteCC h0.1 o.name o.spec).congr hn hg hitem.nodeView e hitem.svcs
  · obtain ⟨hs, hrd⟩ := hnew o hv hd
    exact (keeps_createCC h0.1 hs hc (hrd al hc)).congr hn hg hitem.nodeView e hitem.svcs

theorem both_step {s : Sys} (h : Inv s) (e : Ev) (hf : Frag s e) : Keeps s (step s e).1 := by
  by_cases hcc : e.envCC = true
  · rw [step_envCC hcc]; exact (keeps_refl h).congr rfl rfl rfl rfl rfl
  cases e with
  | nodeAdd n =>
    obtain ⟨hc, hj, hv⟩ := hf
    cases ha : getNode s.api.nodes n.name with
    | none => exact keeps_nodeAdd h n hc hj hv ha
    | some y => rw [show (step s (.nodeAdd n)).1 = s by dsimp only [step]; rw [ha]; rfl]; exact keeps_refl h
  | nodeDel name => exact keeps_nodeDel h name
  | nodeDeleting name => exact keeps_nodeDeleting h name
  | deliverNode name tomb =>
    rcases step_deliverNode s name tomb with ⟨cur, hg, e⟩ | ⟨_, _, e⟩ | ⟨hg, stale, hv, e⟩ <;> rw [e]
    · exact (keeps_view_put h name cur hg).congr rfl rfl rfl rfl rfl
    · exact keeps_refl h
    · -- a delete notification: on the fragment it carries the final state of the node
      cases tomb with
      | true => have := hf rfl; rw [hg] at this; cases this
      | false => exact (keeps_gone h name hg stale hv).congr rfl rfl rfl rfl rfl
  | deliverCC name =>
    rcases step_deliverCC s name with ⟨_, _, e⟩ | ⟨_, _, e⟩ | ⟨_, e⟩ <;> rw [e]
    · exact (keeps_refl h).congr rfl rfl rfl rfl rfl
    · exact keeps_refl h
    · exact (keeps_refl h).congr rfl rfl rfl rfl rfl
  | procNode name refresh ws =>
    rcases step_procNode s name refresh ws with e | e <;> rw [e]
    · exact keeps_refl h
    · exact keeps_procNode h name refresh ws hf
  | procCC name w =>
    rcases step_procCC s name w with e | e <;> rw [e]
    · exact keeps_refl h
    · exact keeps_procCC h name w hf
  | boot _ _ | nodeLabels _ _ | nodeSetCIDRs _ _ => exact hf.elim
  | ccAdd _ _ | ccDel _ | ccGen _ _ | ccAddFin _ _ => exact absurd rfl hcc

theorem inv_step {s : Sys} (h : Inv s) (e : Ev) (hf : Frag s e) : Inv (step s e).1 := (both_step h e hf).1

theorem tight_step {s : Sys} (h : Inv s) (hT : Tight s) (e : Ev) (hf : Frag s e) : Tight (step s e).1 := (both_step h e hf).2 hT

theorem inv_run : ∀ (evs : List Ev) (s : Sys), Inv s → FragAll s evs → Inv (run s evs) :=
  run_induction id fun e h hf => inv_step h e hf

/-- **C01 on the fragment**: from such a start, whatever happens in the fragment — nodes coming and going, being
deleted with or without a deletion timestamp first, notifications delayed or overtaken by cache updates in the
middle of an item, work items interleaved in any order, writes failing any number of times — no two nodes that
exist and are not being deleted ever hold overlapping pod CIDRs. -/
theorem no_overlap_ever (s : Sys) (hs : Inv s) (evs : List Ev) (hf : FragAll s evs) : NoOverlap (run s evs) :=
  (inv_run evs s hs hf).noOverlap

theorem tight_run : ∀ (evs : List Ev) (s : Sys), Inv s → Tight s → FragAll s evs → Tight (run s evs) :=
  fun evs s h hT hf => (run_induction (P := fun s => Inv s ∧ Tight s) id
    (fun e h hf => ⟨inv_step h.1 e hf, tight_step h.1 h.2 e hf⟩) evs s ⟨h, hT⟩ hf).2

/-- a start state in which nothing is associated is tight when every used block meets a service range (what
`filterOutServiceRange` leaves behind), in particular when nothing is in use -/
theorem tight_init (s : Sys) (h : ∀ j cd, UsedAt s.alloc j cd → ∃ svc ∈ s.svcs, ¬ cd.Disjoint svc) : Tight s :=
  fun j cd hu => Or.inr (h j cd hu)

example : Tight exStart := by
  apply tight_init
  rintro j cd ⟨c, p, k, hg, hp, hk, _⟩
  exfalso
  rcases exStart_get hg with ⟨_, rfl⟩ | ⟨_, rfl⟩ <;> cases hf : cd.fam <;> rw [hf] at hp <;> cases hp <;> cases hk

end Ipam.Safety
