import IpamVerif.StepLemmas
import IpamVerif.AllocLemmas
/-!
# What the node side of the allocator never changes

`c.frame`: what `createClusterCIDRSet` derives from the ClusterCIDR object (selector key, parsed selector, name,
geometry of the pools) and the terminating flag.  Allocation with its roll-back, `occupyCIDRs`,
`ReleaseCIDR`, associations and the service filter rewrite pools and association lists only, so each of them keeps
the list of frames `a.frame` as it is, with no assumption on the state (`frame_*`).  Apart from a restart, an event
therefore keeps the frames, or maps one ClusterCIDR, or flags or unmaps one (`Alloc.Touch`, `step_touch`).  Whatever is a function
of the frame — `OnePer.KN`, `Sticky.KNT`, `Shape.SH` — is kept by the node side for that reason.
-/
namespace Ipam

/-- the part of an entry that only the ClusterCIDR side writes -/
structure Frame where
  key : String
  reqs : List Req
  name : String
  term : Bool
  geo4 : Option Geo
  geo6 : Option Geo

def CC.frame (c : CC) : Frame := ⟨c.key, c.reqs, c.name, c.term, c.v4.map (·.geo), c.v6.map (·.geo)⟩

theorem CC.frame_setPool {c : CC} {f : Fam} {p p' : Pool} (hp : c.pool f = some p) (h : p'.geo = p.geo) :
    (c.setPool f p').frame = c.frame := by
  cases f <;> simp only [CC.pool] at hp <;> simp [CC.frame, CC.setPool, hp, h]

theorem CC.frame_occupy {c c' : CC} {cd : Cidr} (h : c.occupy cd = some c') : c'.frame = c.frame := by
  obtain ⟨p, p', hp, ho, rfl⟩ := CC.occupy_eq_some.mp h
  exact CC.frame_setPool hp (Pool.occupy_geo_label ho).1

theorem CC.frame_release {c c' : CC} {cd : Cidr} (h : c.release cd = some c') : c'.frame = c.frame := by
  obtain ⟨p, p', hp, hr, rfl⟩ := CC.release_eq_some.mp h
  exact CC.frame_setPool hp (Pool.release_geo_label hr).1

theorem CC.frame_addAssoc (c : CC) (n : String) : (c.addAssoc n).frame = c.frame := by
  unfold CC.addAssoc; split <;> rfl

theorem CC.frame_delAssoc (c : CC) (n : String) : (c.delAssoc n).frame = c.frame := rfl

theorem CC.frame_occupyList (cs : List Cidr) (c : CC) : (c.occupyList cs).1.frame = c.frame := by
  induction cs generalizing c with
  | nil => rfl
  | cons cd rest ih =>
    unfold CC.occupyList
    split
    · rfl
    · rename_i c' ho; rw [ih, CC.frame_occupy ho]

theorem CC.frame_occupyService (c : CC) (svc : Cidr) : (c.occupyService svc).frame = c.frame := by
  rcases c.occupyService_cases svc with e | ⟨c', ho, e⟩ <;> rw [e]
  exact CC.frame_occupy ho

def Alloc.frame (a : Alloc) : List Frame := a.ccs.map CC.frame

/-- rewriting an entry changes the image of the list under `g` only if it changes `g` of that entry -/
theorem Alloc.map_set {β : Type} (g : CC → β) {a : Alloc} {i : Nat} {c c' : CC} (hg : a.get? i = some c)
    (h : g c' = g c) : (a.set i c').ccs.map g = a.ccs.map g := by
  unfold Alloc.set
  rw [List.map_set, h, ← List.map_set]
  exact congrArg (fun b => b.ccs.map g) (a.set_self i c hg)

theorem Alloc.frame_set {a : Alloc} {i : Nat} {c c' : CC} (hg : a.get? i = some c) (h : c'.frame = c.frame) :
    (a.set i c').frame = a.frame :=
  Alloc.map_set CC.frame hg h

theorem Alloc.map_of_frame {β : Type} (π : Frame → β) {a a' : Alloc} (h : a'.frame = a.frame) :
    a'.ccs.map (fun c => π c.frame) = a.ccs.map (fun c => π c.frame) :=
  List.map_map.symm.trans ((congrArg (List.map π) h).trans List.map_map)

theorem Alloc.get?_of_map_eq {β : Type} (g : CC → β) {a a' : Alloc} (h : a.ccs.map g = a'.ccs.map g) {i : Nat} {c : CC}
    (hg : a.get? i = some c) : ∃ c', a'.get? i = some c' ∧ g c' = g c := by
  have h1 : (a'.ccs[i]?).map g = some (g c) := by
    rw [← List.getElem?_map, ← h, List.getElem?_map, show a.ccs[i]? = some c from hg]; rfl
  exact Option.map_eq_some_iff.mp h1

/-- `(op a).1.frame = a.frame`, read on a result that has been taken apart -/
theorem Alloc.frame_of_eq {α : Type} {x : Alloc × α} {a a' : Alloc} {r : α} (hx : x = (a', r)) (h : x.1.frame = a.frame) :
    a'.frame = a.frame := by
  subst hx; exact h

theorem Alloc.frame_allocLoop (i : Nat) (f : Fam) (fuel ev : Nat) (a : Alloc) :
    (allocLoop a i f fuel ev).1.frame = a.frame := by
  induction fuel generalizing ev a with
  | zero => rfl
  | succ fuel ih =>
    unfold allocLoop
    split
    · rfl
    · rename_i c hg
      split
      · rfl
      · rename_i p hp
        split
        · rfl
        · split
          · rfl
          · rename_i k skipped p' hn
            have h1 : (a.set i (c.setPool f p')).frame = a.frame :=
              Alloc.frame_set hg (CC.frame_setPool hp (Pool.next_geo_label hn).1)
            simp only
            split
            · rw [ih, h1]
            · split
              · exact h1
              · rename_i c'' ho
                rw [Alloc.frame_set (Alloc.get?_set_self _ _ _ _ hg) (CC.frame_occupy ho), h1]

theorem Alloc.frame_allocate (a : Alloc) (i : Nat) (f : Fam) : (a.allocate i f).1.frame = a.frame := by
  unfold Alloc.allocate
  split
  · rfl
  · split
    · rfl
    · exact Alloc.frame_allocLoop ..

theorem Alloc.frame_releaseAll (i : Nat) (cs : List Cidr) (a : Alloc) : (a.releaseAll i cs).1.frame = a.frame := by
  induction cs generalizing a with
  | nil => rfl
  | cons cd rest ih =>
    unfold Alloc.releaseAll
    split
    · rfl
    · rename_i c hg
      split
      · rfl
      · rename_i c' hr; rw [ih, Alloc.frame_set hg (CC.frame_release hr)]

theorem AllocFam.frame {a a' : Alloc} {i : Nat} {f : Fam} {o : Option Pool} {r : Option (List Cidr)}
    (h : AllocFam a i f o a' r) : a'.frame = a.frame := by
  cases h with
  | absent => rfl
  | failed hal | served hal => exact Alloc.frame_of_eq hal (a.frame_allocate i f)

theorem Alloc.frame_tryEntry (a : Alloc) (i : Nat) : (a.tryEntry i).1.frame = a.frame := by
  cases hg : a.get? i with
  | none => rw [Alloc.tryEntry_of_get_none hg]
  | some c =>
    have ht := Alloc.tryEntry_cases hg
    generalize a.tryEntry i = r at ht
    cases ht with
    | skip4 h4 => exact h4.frame
    | served h4 h6 => exact h6.frame.trans h4.frame
    | skip6 h4 h6 => exact (Alloc.frame_releaseAll ..).trans (h6.frame.trans h4.frame)

theorem Alloc.frame_prioritized (l : List Nat) (a : Alloc) : (a.prioritized l).1.frame = a.frame := by
  induction l generalizing a with
  | nil => rfl
  | cons i rest ih =>
    unfold Alloc.prioritized
    split
    · rename_i h; exact Alloc.frame_of_eq h (a.frame_tryEntry i)
    · rename_i h; rw [ih]; exact Alloc.frame_of_eq h (a.frame_tryEntry i)

theorem Alloc.frame_occupyNode (name : String) (cidrs : List Cidr) (l : List Nat) (a : Alloc) :
    (a.occupyNode name cidrs l).1.frame = a.frame := by
  induction l generalizing a with
  | nil => rfl
  | cons i rest ih =>
    unfold Alloc.occupyNode
    split
    · exact ih a
    · rename_i c hg
      have hc := fun {c' ok} (h : c.occupyList cidrs = (c', ok)) => h ▸ c.frame_occupyList cidrs
      split
      · rename_i h; exact Alloc.frame_set hg ((CC.frame_addAssoc _ _).trans (hc h))
      · rename_i h; rw [ih, Alloc.frame_set hg (hc h)]

theorem Alloc.frame_releaseNode (a : Alloc) (name : String) (ls : Labels) (cs : List Cidr) :
    (a.releaseNode name ls cs).1.frame = a.frame := by
  unfold Alloc.releaseNode
  split
  · rfl
  · rename_i i _
    split
    · rename_i h; exact Alloc.frame_of_eq h (a.frame_releaseAll i cs)
    · rename_i a' h
      have h1 := Alloc.frame_of_eq h (a.frame_releaseAll i cs)
      split
      · exact h1
      · rename_i c hg; exact (Alloc.frame_set hg (c.frame_delAssoc name)).trans h1

theorem Alloc.frame_filterService (a : Alloc) (svc : Cidr) : (a.filterService svc).frame = a.frame := by
  unfold Alloc.filterService Alloc.frame
  rw [List.map_map]
  exact List.map_congr_left (fun c _ => c.frame_occupyService svc)

theorem frame_releaseCIDR (al : Alloc) (n : NodeObj) : (releaseCIDR al n).1.frame = al.frame := by
  unfold releaseCIDR
  split
  · rfl
  · split
    · rfl
    · exact al.frame_releaseNode ..

theorem frame_occupyCIDRs (al : Alloc) (n : NodeObj) : (occupyCIDRs al n).1.frame = al.frame := by
  unfold occupyCIDRs
  simp only
  split
  · rfl
  · split
    · rfl
    · exact al.frame_occupyNode ..

theorem Alloc.frame_assoc (a : Alloc) (i : Nat) (name : String) : (a.assoc i name).frame = a.frame := by
  unfold Alloc.assoc
  split
  · rename_i c hg; exact Alloc.frame_set hg (c.frame_addAssoc name)
  · rfl

theorem frame_updateCIDRsAllocation (s : Sys) (name : String) (cidrs : List Cidr) (i : Nat) (ws : List WOut) :
    (updateCIDRsAllocation s name cidrs i ws).1.alloc.frame = s.alloc.frame := by
  rcases update_cases s name cidrs i with ⟨_, e⟩ | ⟨n, _, ⟨_, _, e⟩ | ⟨_, _, e⟩ | ⟨_, _, e⟩⟩ <;> rw [e ws]
  · exact Alloc.frame_releaseAll ..
  · exact Alloc.frame_assoc ..
  · exact Alloc.frame_releaseAll ..
  · split
    · exact Alloc.frame_assoc ..
    · exact Alloc.frame_releaseAll ..

theorem frame_allocateOrOccupy (s : Sys) (n : NodeObj) (refresh : Bool) (ws : List WOut) :
    (allocateOrOccupy s n refresh ws).1.alloc.frame = s.alloc.frame := by
  rcases allocate_cases s n refresh with ⟨_, e⟩ | ⟨_, al, r, hp, h⟩
  · rw [e ws]; exact frame_occupyCIDRs ..
  · have hal : al.frame = s.alloc.frame := Alloc.frame_of_eq hp (s.alloc.frame_prioritized _)
    rcases h with ⟨_, e⟩ | ⟨cidrs, i, _, _, ⟨_, e⟩ | ⟨_, _, _, e⟩ | ⟨_, _, e⟩⟩ <;> rw [e ws]
    · exact hal
    · exact (frame_updateCIDRsAllocation { s with alloc := al } ..).trans hal
    · exact (frame_updateCIDRsAllocation { s with alloc := al, nodeView := _, nodeQ := _ } ..).trans hal
    · exact (frame_releaseCIDR ..).trans ((Alloc.frame_releaseAll ..).trans hal)

theorem frame_procNode (s : Sys) (name : String) (refresh : Bool) (ws : List WOut) :
    (procNode s name refresh ws).1.alloc.frame = s.alloc.frame := by
  rw [procNode_eq]
  rcases procNodeCore_cases { s with nodeQ := qDel s.nodeQ name } name refresh with ⟨_, e⟩ | ⟨n, _, _, ⟨_, e⟩ | ⟨_, e⟩⟩ <;>
    rw [e ws]
  · exact frame_releaseCIDR ..
  · exact frame_allocateOrOccupy { s with nodeQ := qDel s.nodeQ name } n refresh ws

theorem frame_bootNodes (l : List NodeObj) (al : Alloc) : (bootNodes al l).frame = al.frame :=
  bootNodes_induct (P := fun a => a.frame = al.frame) (fun a n _ _ _ h => (frame_occupyCIDRs a n).trans h) al rfl

theorem frame_filterAll (svcs : List Cidr) (al : Alloc) :
    (svcs.foldl (fun a sv => a.filterService sv) al).frame = al.frame :=
  filterAll_induct (P := fun a => a.frame = al.frame) (fun a sv _ h => (a.frame_filterService sv).trans h) al rfl

/-! ### which events touch the map -/

/-- what `deleteClusterCIDR` does to the list of entries: nothing, or it flags one entry, or it drops one that no node
is associated with -/
theorem delFirst_shape (key name : String) : ∀ (l l' : List CC) (r : DelResult), delFirst key name l = (l', r) →
    l' = l ∨ (∃ i c, l[i]? = some c ∧ l' = l.set i { c with term := true }) ∨
    (∃ i c, l[i]? = some c ∧ c.assoc = [] ∧ l' = l.eraseIdx i) := by
  intro l l' r h
  rcases delFirst_spec key name l with ⟨h1, _⟩ | ⟨pre, c, post, rfl, _, _, _, ⟨_, h1⟩ | ⟨ha, h1⟩⟩ <;>
    (rw [h1] at h; cases h)
  · exact .inl rfl
  · exact .inr (.inl ⟨pre.length, c, by simp, by simp⟩)
  · exact .inr (.inr ⟨pre.length, c, by simp, ha, by simp [List.eraseIdx_append_of_length_le]⟩)

theorem Alloc.deleteCC_cases (a : Alloc) (name : String) (spec : CCSpec) :
    (a.deleteCC name spec).1 = a ∨ (∃ i c, a.get? i = some c ∧ (a.deleteCC name spec).1 = a.set i { c with term := true }) ∨
    ∃ i c, a.get? i = some c ∧ c.assoc = [] ∧ (a.deleteCC name spec).1 = ⟨a.ccs.eraseIdx i⟩ := by
  unfold Alloc.deleteCC
  split
  · exact .inl rfl
  · rcases delFirst_shape _ name a.ccs _ _ rfl with h | ⟨i, c, hi, h⟩ | ⟨i, c, hi, ha, h⟩
    · exact .inl (congrArg Alloc.mk h)
    · exact .inr (.inl ⟨i, c, hi, congrArg Alloc.mk h⟩)
    · exact .inr (.inr ⟨i, c, hi, ha, congrArg Alloc.mk h⟩)

/-- what a work item or a notification can do to the map: rewrite pools and associations, map one ClusterCIDR,
unmap one -/
inductive Alloc.Touch (a : Alloc) : Alloc → Prop
  | frame {a' : Alloc} : a'.frame = a.frame → Touch a a'
  | create {a' : Alloc} {name : String} {spec : CCSpec} {t : Bool} : a.createCC name spec t = some a' → Touch a a'
  | delete (name : String) (spec : CCSpec) : Touch a (a.deleteCC name spec).1

theorem createClusterCIDR_touch (s : Sys) (o : CCObj) (t : Bool) (w : WOut) :
    s.alloc.Touch (createClusterCIDR s o t w).1.alloc := by
  rcases createClusterCIDR_cases s o t w with ⟨_, e⟩ | ⟨al, _, hc, _, e⟩ <;> rw [e]
  · exact .frame rfl
  · exact .create hc

theorem procCC_touch (s : Sys) (name : String) (w : WOut) : s.alloc.Touch (procCC s name w).1.alloc := by
  rw [procCC_eq]
  rcases (procCCCore_item { s with ccQ := qDel s.ccQ name } name w).alloc with e | ⟨o, _, e⟩ | ⟨o, al, _, _, hc, e⟩
  · exact .frame (congrArg Alloc.frame e)
  · exact e ▸ .delete o.name o.spec
  · exact e ▸ .create hc

theorem step_touch (s : Sys) (e : Ev) : (∃ svcs ws, e = .boot svcs ws) ∨ s.alloc.Touch (step s e).1.alloc := by
  rcases step_alloc s e with h | h | ⟨obj, h⟩ | ⟨name, r, ws, h⟩ | ⟨name, w, h⟩
  · exact .inr (.frame (congrArg Alloc.frame h))
  · exact .inl h
  · rw [h]; exact .inr (.frame (frame_releaseCIDR ..))
  · rw [h]; exact .inr (.frame (frame_procNode ..))
  · rw [h]; exact .inr (procCC_touch ..)

end Ipam
