import IpamVerif.Frame
import IpamVerif.BootLemmas
/-!
# One entry per ClusterCIDR object, in every reachable state (C10, unconditional)

`NoDupKN a`: no two entries of the allocator state share selector key and name.  `createCC` appends only when the
pair is not mapped, `deleteCC` flags or drops one entry, every other operation keeps the frames (`Frame.lean`) and the
pairs with them (`KN_of_frame`).  Hence the invariant holds after *every* event of *every* history — restarts, failed
and lost writes, duplicate and stale notifications, retries — with no assumption at all (`nodup_step`, `nodup_run`).
-/
namespace Ipam.OnePer

def kn (c : CC) : String × String := (c.key, c.name)
def KN (a : Alloc) : List (String × String) := a.ccs.map kn
def NoDupKN (a : Alloc) : Prop := (KN a).Nodup

theorem KN_of_frame {a a' : Alloc} (h : a'.frame = a.frame) : KN a' = KN a :=
  Alloc.map_of_frame (fun x => (x.key, x.name)) h

theorem NoDupKN.of_frame {a a' : Alloc} (h : a'.frame = a.frame) (hn : NoDupKN a) : NoDupKN a' := by
  unfold NoDupKN; rw [KN_of_frame h]; exact hn

theorem KN_set_none {a : Alloc} {i : Nat} (c' : CC) (hg : a.get? i = none) : a.set i c' = a :=
  Alloc.set_none c' hg

theorem get?_set_self' {a : Alloc} {i : Nat} {c : CC} (d : CC) (hg : a.get? i = some c) : (a.set i d).get? i = some d :=
  Alloc.get?_set_self _ _ _ _ hg

theorem mem_KN_of_mapped {a : Alloc} {key name : String} : a.mapped key name = true ↔ (key, name) ∈ KN a := by
  rw [Alloc.mapped_iff]; simp [KN, kn]

theorem createCC_cases {a al : Alloc} {name : String} {spec : CCSpec} {t : Bool}
    (hc : a.createCC name spec t = some al) : al = a ∨ ∃ c, al = ⟨a.ccs ++ [c]⟩ ∧ kn c ∉ KN a := by
  obtain ⟨reqs, _, ⟨_, rfl⟩ | ⟨hnm, c, hb, rfl⟩⟩ := Alloc.createCC_eq_some hc
  · exact .inl rfl
  · obtain ⟨p4, p6, _, _, _, rfl⟩ := buildCC_eq_some hb
    exact .inr ⟨_, rfl, fun hx => by rw [mem_KN_of_mapped.mpr hx] at hnm; cases hnm⟩

theorem nodup_createCC {a al : Alloc} {name : String} {spec : CCSpec} {t : Bool} (h : NoDupKN a)
    (hc : a.createCC name spec t = some al) : NoDupKN al := by
  rcases createCC_cases hc with rfl | ⟨c, rfl, hnew⟩
  · exact h
  · unfold NoDupKN KN
    rw [List.map_append, List.nodup_append]
    refine ⟨h, by simp, ?_⟩
    intro x hx y hy
    rw [List.mem_singleton.mp hy]
    intro he; exact hnew (he ▸ hx)

theorem nodup_deleteCC {a : Alloc} (h : NoDupKN a) (name : String) (spec : CCSpec) : NoDupKN (a.deleteCC name spec).1 := by
  rcases a.deleteCC_cases name spec with h1 | ⟨i, c, hg, h1⟩ | ⟨i, _, _, _, h1⟩ <;> rw [h1]
  · exact h
  · unfold NoDupKN KN; rw [Alloc.map_set kn (c' := { c with term := true }) hg rfl]; exact h
  · exact ((List.eraseIdx_sublist _ _).map _).nodup h

theorem NoDupKN.touch {a a' : Alloc} (h : NoDupKN a) (ht : a.Touch a') : NoDupKN a' := by
  cases ht with
  | frame hf => exact h.of_frame hf
  | create hc => exact nodup_createCC h hc
  | delete name spec => exact nodup_deleteCC h name spec

theorem nodup_boot (s : Sys) (svcs : List Cidr) (ws : List WOut) : NoDupKN (boot s svcs ws).1.alloc :=
  boot_alloc_induct (P := NoDupKN) List.nodup_nil (fun _ _ _ _ h => h.touch (createClusterCIDR_touch ..))
    (fun al sv h => h.of_frame (al.frame_filterService sv)) (fun al n h => h.of_frame (frame_occupyCIDRs al n)) s svcs ws

/-- **one entry per ClusterCIDR object** (selector key and name), after every event — with no restriction on the
history: restarts, failed and lost writes, duplicate and stale notifications, retries, deletions, re-creations -/
theorem nodup_step {s : Sys} (h : NoDupKN s.alloc) (e : Ev) : NoDupKN (step s e).1.alloc := by
  rcases step_touch s e with ⟨svcs, ws, rfl⟩ | ht
  · exact nodup_boot s svcs ws
  · exact h.touch ht

theorem nodup_run : ∀ (evs : List Ev) (s : Sys), NoDupKN s.alloc → NoDupKN (run s evs).alloc :=
  fun evs s h => run_induction (P := fun s => NoDupKN s.alloc) (F := fun _ _ => True) (FA := fun _ _ => True)
    (fun _ => ⟨trivial, trivial⟩) (fun e h _ => nodup_step h e) evs s h trivial

end Ipam.OnePer
