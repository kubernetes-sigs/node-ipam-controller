import IpamVerif.Frame
import IpamVerif.AllocObs
import IpamVerif.System
import IpamVerif.ApiLemmas
import IpamVerif.AllocOrder
import IpamVerif.Props.C09
/-!
# History-level safety: an inductive invariant of the whole controller model

`Inv` relates the three places a pod CIDR lives in — the API objects, the informer cache, the allocator's
pools and associations — and is preserved by every event of the fragment `Frag`, hence by every history in it
(`inv_step`, `inv_run`: the events are walked once, in `Tight.lean`, for this invariant and the one of C04 together; here
are the invariant and what each kind of change does to it).  It implies that nodes which exist and are not being
deleted hold pairwise disjoint pod CIDRs (`Inv.noOverlap`).  The clauses:

* `own`   – a node associated with an entry has (as API object, or as the final state of a deleted one) pod CIDRs
            that are blocks in use in exactly that entry;
* `uniq`  – a node is associated with at most one entry;
* `obj.disj` – nodes associated with entries hold disjoint CIDRs, whichever object (API, cache, final state) one looks at;
* `held`  – an API or cached object with pod CIDRs that is not (known to be) under deletion is associated and in use;
* `pend`  – an associated node is still in the cache (its release is still to come);
* `obj.coh`, `obj.lab`, `delMono`, `gravesFresh`, `graveOrApi`, `nodup*` – the cache and the record of final states lag
            behind the API objects but never contradict them;
* `obj.elig` – the entry a node is associated with is found again when the release is routed by the node's labels;
* `rd`    – mapped ranges are pairwise disjoint (the fragment's standing assumption; overlapping ClusterCIDRs are
            the subject of the recorded findings P9, P11, P12, P22).
-/
namespace Ipam.Safety

def CidrsDisj (a b : List Cidr) : Prop := ∀ x ∈ a, ∀ y ∈ b, x.fam = y.fam → x.Disjoint y
def Objs (s : Sys) : List NodeObj := s.api.nodes ++ s.nodeView ++ s.api.graves

/-- what all the object-level clauses look at -/
structure Sim (o' o : NodeObj) : Prop where
  name : o'.name = o.name
  labels : o'.labels = o.labels
  cidrs : o'.cidrs = o.cidrs
  junk : o'.junk = o.junk

structure ObjInv (objs : List NodeObj) (a : Alloc) : Prop where
  nojunk : ∀ v ∈ objs, v.junk = false
  cidrWF : ∀ v ∈ objs, ∀ cd ∈ v.cidrs, cd.WF
  coh : ∀ v ∈ objs, ∀ w ∈ objs, v.name = w.name → v.cidrs ≠ [] → w.cidrs ≠ [] → v.cidrs = w.cidrs
  lab : ∀ v ∈ objs, ∀ w ∈ objs, v.name = w.name → v.labels = w.labels
  disj : ∀ i j x x', Claims a x i → Claims a x' j → x ≠ x' → ∀ v ∈ objs, ∀ w ∈ objs, v.name = x → w.name = x' →
    CidrsDisj v.cidrs w.cidrs
  elig : ∀ i x, Claims a x i → ∀ v ∈ objs, v.name = x → Elig a i v.labels

structure Inv (s : Sys) : Prop where
  wf : s.alloc.WF
  rd : RangesDisj s.alloc
  nodupApi : (s.api.nodes.map (·.name)).Nodup
  nodupView : (s.nodeView.map (·.name)).Nodup
  nodupGraves : (s.api.graves.map (·.name)).Nodup
  graveOrApi : ∀ v ∈ s.nodeView, (∃ y ∈ s.api.nodes, y.name = v.name) ∨ (∃ g ∈ s.api.graves, g.name = v.name)
  obj : ObjInv (Objs s) s.alloc
  delMono : ∀ v ∈ s.nodeView, ∀ y ∈ s.api.nodes, v.name = y.name → v.deleting = true → y.deleting = true
  gravesFresh : ∀ g ∈ s.api.graves, ∀ y ∈ s.api.nodes, g.name ≠ y.name
  own : ∀ i x, Claims s.alloc x i → ∃ v ∈ s.api.nodes ++ s.api.graves, v.name = x ∧ v.cidrs ≠ [] ∧ ∀ cd ∈ v.cidrs, UsedAt s.alloc i cd
  uniq : ∀ i j x, Claims s.alloc x i → Claims s.alloc x j → i = j
  held : ∀ v ∈ s.api.nodes ++ s.nodeView, v.cidrs ≠ [] →
    (v.deleting = false ∨ ∃ w ∈ s.nodeView, w.name = v.name ∧ w.deleting = false) →
    ∃ i, Claims s.alloc v.name i ∧ ∀ cd ∈ v.cidrs, UsedAt s.alloc i cd
  pend : ∀ i x, Claims s.alloc x i → ∃ v ∈ s.nodeView, v.name = x

theorem mem_objs {s : Sys} {v : NodeObj} : v ∈ Objs s ↔ v ∈ s.api.nodes ∨ v ∈ s.nodeView ∨ v ∈ s.api.graves := by
  unfold Objs; simp only [List.mem_append, or_assoc]

theorem mem_objs_of_holder {s : Sys} {v : NodeObj} (hv : v ∈ s.api.nodes ++ s.api.graves) : v ∈ Objs s :=
  mem_objs.mpr ((List.mem_append.mp hv).imp_right Or.inr)

theorem ObjInv.of_sim {objs objs' : List NodeObj} {a : Alloc} (h : ObjInv objs a)
    (hs : ∀ o' ∈ objs', ∃ o ∈ objs, Sim o' o) : ObjInv objs' a := by
  constructor
  · intro v hv
    obtain ⟨o, ho, hsim⟩ := hs v hv
    rw [hsim.junk]; exact h.nojunk o ho
  · intro v hv cd hcd
    obtain ⟨o, ho, hsim⟩ := hs v hv
    rw [hsim.cidrs] at hcd; exact h.cidrWF o ho cd hcd
  · intro v hv w hw hn hv0 hw0
    obtain ⟨o, ho, hsim⟩ := hs v hv
    obtain ⟨o2, ho2, hsim2⟩ := hs w hw
    rw [hsim.cidrs] at hv0 ⊢
    rw [hsim2.cidrs] at hw0 ⊢
    exact h.coh o ho o2 ho2 (by rw [← hsim.name, ← hsim2.name]; exact hn) hv0 hw0
  · intro v hv w hw hn
    obtain ⟨o, ho, hsim⟩ := hs v hv
    obtain ⟨o2, ho2, hsim2⟩ := hs w hw
    rw [hsim.labels, hsim2.labels]
    exact h.lab o ho o2 ho2 (by rw [← hsim.name, ← hsim2.name]; exact hn)
  · intro i j x x' hc hc' hne v hv w hw hvx hwx
    obtain ⟨o, ho, hsim⟩ := hs v hv
    obtain ⟨o2, ho2, hsim2⟩ := hs w hw
    rw [hsim.cidrs, hsim2.cidrs]
    exact h.disj i j x x' hc hc' hne o ho o2 ho2 (by rw [← hsim.name]; exact hvx) (by rw [← hsim2.name]; exact hwx)
  · intro i x hc v hv hvx
    obtain ⟨o, ho, hsim⟩ := hs v hv
    rw [hsim.labels]
    exact h.elig i x hc o ho (by rw [← hsim.name]; exact hvx)

theorem Sim.refl (o : NodeObj) : Sim o o := ⟨rfl, rfl, rfl, rfl⟩

/-- the goal: existing, not-being-deleted nodes hold pairwise disjoint pod CIDRs -/
def NoOverlap (s : Sys) : Prop :=
  ∀ x ∈ s.api.nodes, ∀ y ∈ s.api.nodes, x.name ≠ y.name → x.deleting = false → y.deleting = false →
    CidrsDisj x.cidrs y.cidrs

/-- The CIDRs of a node stay its own for as long as `held` speaks of it: also while it is under deletion and the cache still
shows it alive, and whether one looks at the API object or at the cached one. -/
theorem Inv.noOverlap_live {s : Sys} (h : Inv s) : ∀ x ∈ s.api.nodes ++ s.nodeView, ∀ y ∈ s.api.nodes ++ s.nodeView,
    x.name ≠ y.name → (x.deleting = false ∨ ∃ w ∈ s.nodeView, w.name = x.name ∧ w.deleting = false) →
    (y.deleting = false ∨ ∃ w ∈ s.nodeView, w.name = y.name ∧ w.deleting = false) → CidrsDisj x.cidrs y.cidrs := by
  intro x hx y hy hne hxl hyl
  by_cases hx0 : x.cidrs = []
  · intro a ha; rw [hx0] at ha; cases ha
  by_cases hy0 : y.cidrs = []
  · intro a _ b hb; rw [hy0] at hb; cases hb
  obtain ⟨i, hci, _⟩ := h.held x hx hx0 hxl
  obtain ⟨j, hcj, _⟩ := h.held y hy hy0 hyl
  have hO : ∀ v ∈ s.api.nodes ++ s.nodeView, v ∈ Objs s := fun v hv =>
    List.mem_append_left _ hv
  exact h.obj.disj i j x.name y.name hci hcj hne x (hO x hx) y (hO y hy) rfl rfl

theorem Inv.noOverlap {s : Sys} (h : Inv s) : NoOverlap s := fun x hx y hy hne hxd hyd =>
  h.noOverlap_live x (List.mem_append_left _ hx) y (List.mem_append_left _ hy) hne (Or.inl hxd) (Or.inl hyd)

theorem ObjInv.subset {objs objs' : List NodeObj} {a : Alloc} (h : ObjInv objs a) (hs : ∀ o ∈ objs', o ∈ objs) : ObjInv objs' a :=
  h.of_sim (fun o ho => ⟨o, hs o ho, Sim.refl o⟩)

theorem ObjInv.add_fresh {objs objs' : List NodeObj} {a : Alloc} (h : ObjInv objs a) (n : NodeObj)
    (hc : n.cidrs = []) (hj : n.junk = false) (hcl : ∀ i, ¬ Claims a n.name i)
    (hs : ∀ o ∈ objs', o = n ∨ (o ∈ objs ∧ o.name ≠ n.name)) : ObjInv objs' a := by
  constructor
  · intro v hv
    rcases hs v hv with rfl | ⟨hv, _⟩
    · exact hj
    · exact h.nojunk v hv
  · intro v hv cd hcd
    rcases hs v hv with rfl | ⟨hv, _⟩
    · rw [hc] at hcd; cases hcd
    · exact h.cidrWF v hv cd hcd
  · intro v hv w hw hn hv0 hw0
    rcases hs v hv with rfl | ⟨hv, _⟩
    · exact absurd hc hv0
    rcases hs w hw with rfl | ⟨hw, _⟩
    · exact absurd hc hw0
    exact h.coh v hv w hw hn hv0 hw0
  · intro v hv w hw hn
    rcases hs v hv with rfl | ⟨hv, hvn⟩ <;> rcases hs w hw with rfl | ⟨hw, hwn⟩
    · rfl
    · exact absurd hn.symm hwn
    · exact absurd hn hvn
    · exact h.lab v hv w hw hn
  · intro i j x x' hci hcj hne v hv w hw hvx hwx
    rcases hs v hv with rfl | ⟨hv, _⟩
    · intro p hp; rw [hc] at hp; cases hp
    rcases hs w hw with rfl | ⟨hw, _⟩
    · intro p _ q hq; rw [hc] at hq; cases hq
    exact h.disj i j x x' hci hcj hne v hv w hw hvx hwx
  · intro i x hci v hv hvx
    rcases hs v hv with rfl | ⟨hv, _⟩
    · exact absurd (hvx ▸ hci) (hcl i)
    · exact h.elig i x hci v hv hvx

theorem objs_view_put {s : Sys} {cur : NodeObj} (hc : cur ∈ s.api.nodes) {o : NodeObj}
    (ho : o ∈ Objs { s with nodeView := putNode s.nodeView cur }) : o ∈ Objs s := by
  rcases mem_objs.mp ho with ho | ho | ho
  · exact mem_objs.mpr (Or.inl ho)
  · exact mem_objs.mpr ((mem_putNode ho).elim (fun e => Or.inl (e ▸ hc)) fun ho => Or.inr (Or.inl ho.1))
  · exact mem_objs.mpr (Or.inr (Or.inr ho))

/-- the cache takes the current API state of an object that exists -/
theorem inv_view_put {s : Sys} (h : Inv s) (name : String) (cur : NodeObj)
    (hg : getNode s.api.nodes name = some cur) : Inv { s with nodeView := putNode s.nodeView cur } := by
  obtain ⟨hcm, hcn⟩ := mem_of_getNode hg
  constructor
  · exact h.wf
  · exact h.rd
  · exact h.nodupApi
  · exact putNode_names_nodup h.nodupView
  · exact h.nodupGraves
  · intro v hvm
    rcases mem_putNode hvm with rfl | ⟨hvm, _⟩
    · exact Or.inl ⟨v, hcm, rfl⟩
    · exact h.graveOrApi v hvm
  · exact h.obj.subset fun _ => objs_view_put hcm
  · intro v hv z hz hn hd
    rcases mem_putNode hv with rfl | ⟨hv, _⟩
    · have : v = z := eq_of_nodup_names h.nodupApi hcm hz hn
      rw [← this]; exact hd
    · exact h.delMono v hv z hz hn hd
  · exact h.gravesFresh
  · exact h.own
  · exact h.uniq
  · intro v hvm hv0 hcond
    -- `v` was there before, or it is `cur`, which the API holds
    have hvold : v ∈ s.api.nodes ++ s.nodeView ∧ (v.name = cur.name → v = cur) := by
      rcases List.mem_append.mp hvm with hv | hv
      · exact ⟨List.mem_append_left _ hv, eq_of_nodup_names h.nodupApi hv hcm⟩
      · rcases mem_putNode hv with rfl | ⟨hv, hne⟩
        · exact ⟨List.mem_append_left _ hcm, fun _ => rfl⟩
        · exact ⟨List.mem_append_right _ hv, fun e => absurd e hne⟩
    refine h.held v hvold.1 hv0 (hcond.elim Or.inl fun ⟨w, hw, hwn, hwd⟩ => ?_)
    -- a cached witness of liveness is an old one, or the fresh entry: then `v` itself is `cur`, alive
    rcases mem_putNode hw with rfl | ⟨hw, _⟩
    · exact Or.inl (hvold.2 hwn.symm ▸ hwd)
    · exact Or.inr ⟨w, hw, hwn, hwd⟩
  · intro i x hci
    obtain ⟨v, hvm, hvn⟩ := h.pend i x hci
    by_cases he : v.name = cur.name
    · exact ⟨cur, mem_putNode_self _ _, he ▸ hvn⟩
    · exact ⟨v, mem_putNode_of_ne hvm he, hvn⟩

/-- The allocator state goes from `s.alloc` to `a'`: the entries are renumbered by `φ` (`some`, unless ClusterCIDRs come
or go), the associations of the nodes in `R` are dropped and all others kept, blocks that objects of the other associated
nodes hold stay in use, nothing is added.  `view'` is the cache afterwards: a delete notification drops the node from
the cache and releases it in one step, and neither order of the two changes passes through a state in which `Inv` holds
(`held` fails for the stale cache entry, or `pend` for the association). -/
theorem Inv.move {s : Sys} (h : Inv s) {a' : Alloc} {φ : Nat → Option Nat} {R : String → Prop} {view' : List NodeObj}
    (hwf : a'.WF) (hrd : RangesDisj a')
    (bwd : ∀ y j', Claims a' y j' → ¬ R y ∧ ∃ j, φ j = some j' ∧ Claims s.alloc y j)
    (fwd : ∀ y j, Claims s.alloc y j → ¬ R y → ∃ j', φ j = some j' ∧ Claims a' y j')
    (elig : ∀ j j' ls, φ j = some j' → Elig s.alloc j ls → Elig a' j' ls)
    (used : ∀ y j j', Claims s.alloc y j → ¬ R y → φ j = some j' → ∀ v ∈ Objs s, v.name = y → ∀ cd ∈ v.cidrs,
      UsedAt s.alloc j cd → UsedAt a' j' cd)
    (hsub : ∀ v ∈ view', v ∈ s.nodeView) (hkeep : ∀ v ∈ s.nodeView, ¬ R v.name → v ∈ view')
    (hnd : (view'.map (·.name)).Nodup)
    (hliveA : ∀ y ∈ s.api.nodes, R y.name → y.deleting = true ∨ y.cidrs = [])
    (hliveV : ∀ v ∈ view', R v.name → v.deleting = true) :
    Inv { s with alloc := a', nodeView := view' } := by
  have base : ObjInv (Objs { s with alloc := a', nodeView := view' }) s.alloc :=
    h.obj.subset fun o ho => mem_objs.mpr ((mem_objs.mp ho).imp_right (Or.imp_left (hsub o)))
  have hNV : ∀ v ∈ s.api.nodes ++ s.nodeView, v ∈ Objs s := fun v hv =>
    mem_objs.mpr ((List.mem_append.mp hv).imp_right Or.inl)
  refine ⟨hwf, hrd, h.nodupApi, hnd, h.nodupGraves, fun v hv => h.graveOrApi v (hsub v hv),
    ⟨base.nojunk, base.cidrWF, base.coh, base.lab, ?_, ?_⟩, fun v hv => h.delMono v (hsub v hv), h.gravesFresh, ?_, ?_, ?_, ?_⟩
  · intro i' j' y y' hc hc' hne
    obtain ⟨_, i, _, hci⟩ := bwd y i' hc
    obtain ⟨_, j, _, hcj⟩ := bwd y' j' hc'
    exact base.disj i j y y' hci hcj hne
  · intro i' y hc v hv hvy
    obtain ⟨_, i, hφ, hci⟩ := bwd y i' hc
    exact elig i i' _ hφ (base.elig i y hci v hv hvy)
  · intro i' y hc
    obtain ⟨hnr, i, hφ, hci⟩ := bwd y i' hc
    obtain ⟨v, hvm, hvn, hv0, hu⟩ := h.own i y hci
    exact ⟨v, hvm, hvn, hv0, fun cd hcd => used y i i' hci hnr hφ v (mem_objs_of_holder hvm) hvn cd hcd (hu cd hcd)⟩
  · intro i' j' y hc hc'
    obtain ⟨_, i, hφi, hci⟩ := bwd y i' hc
    obtain ⟨_, j, hφj, hcj⟩ := bwd y j' hc'
    rw [h.uniq i j y hci hcj, hφj] at hφi
    exact (Option.some.inj hφi).symm
  · intro v hvm hv0 hcond
    have hvold : v ∈ s.api.nodes ++ s.nodeView := List.mem_append.mpr ((List.mem_append.mp hvm).imp_right (hsub v))
    obtain ⟨i, hc, hu⟩ := h.held v hvold hv0 (hcond.imp_right fun ⟨w, hw, hwn⟩ => ⟨w, hsub w hw, hwn⟩)
    -- a node the API or the cache (afterwards) shows alive is not among the released ones
    have hnr : ¬ R v.name := by
      intro hr
      rcases hcond with hd | ⟨w, hw, hwn, hwd⟩
      · rcases List.mem_append.mp hvm with hvm | hvm
        · exact (hliveA v hvm hr).elim (fun hd' => by rw [hd] at hd'; cases hd') hv0
        · have := hliveV v hvm hr; rw [hd] at this; cases this
      · have := hliveV w hw (hwn ▸ hr); rw [hwd] at this; cases this
    obtain ⟨i', hφ, hc'⟩ := fwd _ i hc hnr
    exact ⟨i', hc', fun cd hcd => used _ i i' hc hnr hφ v (hNV v hvold) rfl cd hcd (hu cd hcd)⟩
  · intro i' y hc
    obtain ⟨hnr, i, _, hci⟩ := bwd y i' hc
    obtain ⟨v, hvm, hvn⟩ := h.pend i y hci
    exact ⟨v, hkeep v hvm (hvn ▸ hnr), hvn⟩

theorem inv_alloc_grow {s : Sys} (h : Inv s) (a' : Alloc) (hle : AllocLe s.alloc a') (hwf : a'.WF) :
    Inv { s with alloc := a' } :=
  h.move (φ := some) (R := fun _ => False) hwf (rangesDisj_le hle h.rd)
    (fun y j hc => ⟨id, j, rfl, (claims_le hle y j).mp hc⟩) (fun y j hc _ => ⟨j, rfl, (claims_le hle y j).mpr hc⟩)
    (fun _ _ _ e he => Option.some.inj e ▸ elig_le hle he) (fun _ _ _ _ _ e _ _ _ _ _ hu => Option.some.inj e ▸ usedAt_le hle hu)
    (fun _ => id) (fun _ hv _ => hv) h.nodupView (fun _ _ => False.elim) (fun _ _ => False.elim)

theorem releaseCIDR_unclaimed {a : Alloc} {V : NodeObj} (h : ∀ i, ¬ Claims a V.name i) : (releaseCIDR a V).1 = a := by
  unfold releaseCIDR
  by_cases h1 : (!V.hasCidrs) = true
  · rw [if_pos h1]
  · by_cases h2 : V.junk = true
    · rw [if_neg h1, if_pos h2]
    · rw [if_neg h1, if_neg h2, releaseNode_unclaimed _ _ h]

theorem releaseCIDR_eq {a : Alloc} {V : NodeObj} (hj : V.junk = false) (hne : V.cidrs ≠ []) :
    releaseCIDR a V = a.releaseNode V.name V.labels V.cidrs := by
  unfold releaseCIDR NodeObj.hasCidrs
  simp [hj, hne]

/-- `V` is an object the controller holds for the node and carries the node's pod CIDRs whenever the node is associated:
the node is not associated and nothing happens, or `releaseNode_exact` applies -/
theorem releaseCIDR_cases {s : Sys} (h : Inv s) (V : NodeObj) (hV : V ∈ Objs s) (hW : ∀ i, Claims s.alloc V.name i → V.cidrs ≠ []) :
    ((∀ i, ¬ Claims s.alloc V.name i) ∧ (releaseCIDR s.alloc V).1 = s.alloc) ∨
    ∃ i, Claims s.alloc V.name i ∧ (releaseCIDR s.alloc V).1.WF ∧ RangesDisj (releaseCIDR s.alloc V).1 ∧
      (∀ y j, Claims (releaseCIDR s.alloc V).1 y j ↔ Claims s.alloc y j ∧ y ≠ V.name) ∧
      (∀ j cd, UsedAt (releaseCIDR s.alloc V).1 j cd ↔ UsedAt s.alloc j cd ∧ ¬ (j = i ∧ cd ∈ V.cidrs)) ∧
      (∀ j ls, Elig (releaseCIDR s.alloc V).1 j ls ↔ Elig s.alloc j ls) := by
  by_cases hcl : ∃ i, Claims s.alloc V.name i
  · obtain ⟨i, hci⟩ := hcl
    have hne := hW i hci
    obtain ⟨w, hwm, hwn, hw0, hu⟩ := h.own i _ hci
    obtain ⟨a', hr, hwf, hrd, hex⟩ := releaseNode_exact h.wf hci (fun j hj => h.uniq j i _ hj hci) (h.obj.elig i _ hci V hV rfl)
      (h.obj.coh V hV w (mem_objs_of_holder hwm) hwn.symm hne hw0 ▸ hu)
    rw [releaseCIDR_eq (h.obj.nojunk V hV) hne, hr]
    exact Or.inr ⟨i, hci, hwf, hrd h.rd, hex⟩
  · exact Or.inl ⟨fun i hi => hcl ⟨i, hi⟩, releaseCIDR_unclaimed fun i hi => hcl ⟨i, hi⟩⟩

/-- the state after `ReleaseCIDR` for the node of `V` (and, for a delete notification, after the cache dropped it) -/
theorem inv_releaseCIDR {s : Sys} (h : Inv s) (V : NodeObj) (hV : V ∈ Objs s)
    (hW : ∀ i, Claims s.alloc V.name i → V.cidrs ≠ [])
    (view' : List NodeObj) (hsub : ∀ v ∈ view', v ∈ s.nodeView) (hkeep : ∀ v ∈ s.nodeView, v.name ≠ V.name → v ∈ view')
    (hnd : (view'.map (·.name)).Nodup)
    (hliveA : ∀ y ∈ s.api.nodes, y.name = V.name → y.deleting = true ∨ y.cidrs = [])
    (hliveV : ∀ v ∈ view', v.name = V.name → v.deleting = true) :
    Inv { s with alloc := (releaseCIDR s.alloc V).1, nodeView := view' } := by
  rcases releaseCIDR_cases h V hV hW with ⟨hno, heq⟩ | ⟨i, hci, hwf, hrd, hcl, hus, hel⟩
  · rw [heq]
    exact h.move (φ := some) (R := (· = V.name)) h.wf h.rd (fun y j hc => ⟨fun e => hno j (e ▸ hc), j, rfl, hc⟩)
      (fun y j hc _ => ⟨j, rfl, hc⟩) (fun _ _ _ e he => Option.some.inj e ▸ he) (fun _ _ _ _ _ e _ _ _ _ _ hu => Option.some.inj e ▸ hu)
      hsub hkeep hnd hliveA hliveV
  · refine h.move (φ := some) (R := (· = V.name)) hwf hrd (fun y j hc => ⟨((hcl y j).mp hc).2, j, rfl, ((hcl y j).mp hc).1⟩)
      (fun y j hc hne => ⟨j, rfl, (hcl y j).mpr ⟨hc, hne⟩⟩) (fun j _ ls e he => Option.some.inj e ▸ (hel j ls).mpr he) ?_
      hsub hkeep hnd hliveA hliveV
    -- a block of another node is not one of the blocks given back: the two nodes' CIDRs are disjoint
    rintro y j _ hcy hyne ⟨⟩ v hvo hvn cd hcd hu
    exact (hus j cd).mpr ⟨hu, fun ⟨_, hm⟩ =>
      Cidr.not_disjoint_self cd (h.obj.disj j i y V.name hcy hci hyne v hvo V hV hvn rfl cd hcd cd hm rfl)⟩

theorem cc_occupy_static {c c' : CC} {cd : Cidr} (h : c.occupy cd = some c') :
    c'.key = c.key ∧ c'.reqs = c.reqs ∧ c'.name = c.name ∧ c'.assoc = c.assoc ∧ c'.term = c.term := by
  obtain ⟨_, p', _, _, rfl⟩ := CC.occupy_eq_some.mp h
  exact ⟨c.setPool_key _ p', c.setPool_reqs _ p', c.setPool_name _ p', c.setPool_assoc _ p', c.setPool_term _ p'⟩

/-- re-sync of a node whose pod CIDRs are recorded in entry `i₀` (and ranges do not overlap): the walk through the
ordered list marks no block and records the association nowhere else (`occupyNode_noop`) -/
theorem occupyNode_grow (name : String) (cidrs : List Cidr) (i₀ : Nat) (hne : cidrs ≠ []) :
    ∀ (l : List Nat) (a : Alloc), a.WF → RangesDisj a → Claims a name i₀ → (∀ cd ∈ cidrs, UsedAt a i₀ cd) →
      AllocLe a (a.occupyNode name cidrs l).1 ∧ (a.occupyNode name cidrs l).1.WF := by
  intro l a ha hrd hcl hused
  rw [occupyNode_noop name cidrs i₀ hne a ha hrd hcl hused l]
  exact ⟨AllocLe.refl a, ha⟩

theorem occupyCIDRs_noop {s : Sys} (h : Inv s) {n : NodeObj} (hn : n ∈ s.nodeView) (hnd : n.deleting = false)
    (hc : n.hasCidrs = true) : (occupyCIDRs s.alloc n).1 = s.alloc := by
  have hjunk := h.obj.nojunk n (List.mem_append_left _ (List.mem_append_right _ hn))
  have hc0 : n.cidrs ≠ [] := fun h0 => by rw [hasCidrs_false_iff.mpr ⟨hjunk, h0⟩] at hc; cases hc
  obtain ⟨i₀, hcl, hu⟩ := h.held n (List.mem_append_right _ hn) hc0 (Or.inl hnd)
  unfold occupyCIDRs
  simp only
  by_cases hl : (s.alloc.ordered n.labels true).isEmpty = true
  · rw [if_pos hl]
  · rw [if_neg hl, if_neg (by rw [hjunk]; exact Bool.false_ne_true), occupyNode_noop n.name n.cidrs i₀ hc0 s.alloc h.wf h.rd hcl hu]

/-- **the write**: node `name` (which has no pod CIDRs, or these very ones) is given the freshly reserved
`cidrs` of entry `i` and is associated with that entry -/
theorem inv_assign {sP : Sys} (h : Inv sP) {name : String} {cidrs : List Cidr} {i : Nat} (hne : cidrs ≠ [])
    (hU : ∀ cd ∈ cidrs, UsedAt sP.alloc i cd ∧ cd.WF)
    (hF : ∀ x j, Claims sP.alloc x j → ∀ v ∈ Objs sP, v.name = x → CidrsDisj cidrs v.cidrs)
    (hEl : ∀ v ∈ Objs sP, v.name = name → Elig sP.alloc i v.labels)
    (hView : ∃ v ∈ sP.nodeView, v.name = name)
    (hViewNo : ∀ v ∈ sP.nodeView, v.name = name → v.cidrs = [])
    (hUn : ∀ j, ¬ Claims sP.alloc name j)
    (y : NodeObj) (hy : getNode sP.api.nodes name = some y) (c : CC) (hc : sP.alloc.get? i = some c) :
    Inv { sP with api := { sP.api with nodes := putNode sP.api.nodes { y with cidrs := cidrs } },
                  alloc := sP.alloc.set i (c.addAssoc name) } := by
  obtain ⟨hym, hyn⟩ := mem_of_getNode hy
  have hyo : y ∈ Objs sP := mem_objs.mpr (Or.inl hym)
  -- an object of the new state is the written one, or an old one that, if it is named after the node, holds nothing
  have hobj : ∀ o ∈ putNode sP.api.nodes { y with cidrs := cidrs } ++ sP.nodeView ++ sP.api.graves,
      o = { y with cidrs := cidrs } ∨ (o ∈ Objs sP ∧ (o.name = name → o.cidrs = [])) := by
    intro o ho
    rcases List.mem_append.mp ho with ho | ho
    · rcases List.mem_append.mp ho with ho | ho
      · exact (mem_putNode ho).imp_right fun ⟨ho, hne'⟩ => ⟨mem_objs.mpr (Or.inl ho), fun he => absurd (he.trans hyn.symm) hne'⟩
      · exact Or.inr ⟨mem_objs.mpr (Or.inr (Or.inl ho)), hViewNo o ho⟩
    · exact Or.inr ⟨mem_objs.mpr (Or.inr (Or.inr ho)), fun he => absurd (he.trans hyn.symm) (h.gravesFresh o ho y hym)⟩
  -- so: it resembles an old object up to its pod CIDRs; named after the node it holds `cidrs` or nothing; otherwise it is old
  have hold : ∀ o ∈ putNode sP.api.nodes { y with cidrs := cidrs } ++ sP.nodeView ++ sP.api.graves,
      ∃ o0 ∈ Objs sP, o.name = o0.name ∧ o.labels = o0.labels ∧ o.junk = o0.junk := fun o ho =>
    (hobj o ho).elim (fun e => ⟨y, hyo, e ▸ rfl, e ▸ rfl, e ▸ rfl⟩) (fun h => ⟨o, h.1, rfl, rfl, rfl⟩)
  have served : ∀ o ∈ putNode sP.api.nodes { y with cidrs := cidrs } ++ sP.nodeView ++ sP.api.graves, o.name = name →
      o.cidrs = cidrs ∨ o.cidrs = [] := fun o ho hon => (hobj o ho).elim (fun e => Or.inl (e ▸ rfl)) (fun h => Or.inr (h.2 hon))
  have other : ∀ o ∈ putNode sP.api.nodes { y with cidrs := cidrs } ++ sP.nodeView ++ sP.api.graves, o.name ≠ name →
      o ∈ Objs sP := fun o ho hon => (hobj o ho).elim (fun e => absurd (e ▸ hyn) hon) (·.1)
  have hcl := fun x j => claims_addAssoc hc name x j
  have hus := fun j cd => usedAt_addAssoc hc name j cd
  have hxn : ∀ {x j}, Claims sP.alloc x j → x ≠ name := fun hcx he => hUn _ (he ▸ hcx)
  constructor
  · exact Alloc.WF_set h.wf (CC.addAssoc_WF (h.wf i c hc) name)
  · exact rangesDisj_addAssoc hc name h.rd
  · exact putNode_names_nodup h.nodupApi
  · exact h.nodupView
  · exact h.nodupGraves
  · intro v hvm
    refine (h.graveOrApi v hvm).imp_left fun ⟨z, hz, hzn⟩ => ?_
    by_cases he : z.name = y.name
    · exact ⟨{ y with cidrs := cidrs }, mem_putNode_self _ _, he ▸ hzn⟩
    · exact ⟨z, mem_putNode_of_ne hz he, hzn⟩
  · constructor
    · intro v hv
      obtain ⟨o0, ho0, _, _, hj0⟩ := hold v hv
      rw [hj0]; exact h.obj.nojunk o0 ho0
    · intro v hv cd hcd
      rcases hobj v hv with rfl | ⟨hv, _⟩
      · exact (hU cd hcd).2
      · exact h.obj.cidrWF v hv cd hcd
    · intro v hv w hw hn hv0 hw0
      rcases hobj v hv with rfl | ⟨hv, hvz⟩
      · rcases hobj w hw with rfl | ⟨hw, hwz⟩
        · rfl
        · exact absurd (hwz (hn.symm.trans hyn)) hw0
      · rcases hobj w hw with rfl | ⟨hw, _⟩
        · exact absurd (hvz (hn.trans hyn)) hv0
        · exact h.obj.coh v hv w hw hn hv0 hw0
    · intro v hv w hw hn
      obtain ⟨v0, hv0, hvn, hvl, _⟩ := hold v hv
      obtain ⟨w0, hw0, hwn, hwl, _⟩ := hold w hw
      rw [hvl, hwl]
      exact h.obj.lab v0 hv0 w0 hw0 (by rw [← hvn, ← hwn]; exact hn)
    · -- against the new association: an object under the node's name holds the fresh blocks or nothing
      have hnew : ∀ x j, Claims sP.alloc x j →
          ∀ v ∈ putNode sP.api.nodes { y with cidrs := cidrs } ++ sP.nodeView ++ sP.api.graves, v.name = x →
          ∀ w ∈ putNode sP.api.nodes { y with cidrs := cidrs } ++ sP.nodeView ++ sP.api.graves, w.name = name →
          CidrsDisj w.cidrs v.cidrs := by
        intro x j hcx v hv hvx w hw hwn
        rcases served w hw hwn with hwc | hwc <;> rw [hwc]
        · exact hF x j hcx v (other v hv (hvx ▸ hxn hcx)) hvx
        · exact fun _ ha => nomatch ha
      intro j j' x x' hcx hcx' hxne v hv w hw hvx hwx
      rcases (hcl x j).mp hcx with hcx0 | ⟨hxe, _⟩ <;> rcases (hcl x' j').mp hcx' with hcx0' | ⟨hxe', _⟩
      · exact h.obj.disj j j' x x' hcx0 hcx0' hxne v (other v hv (hvx ▸ hxn hcx0)) w (other w hw (hwx ▸ hxn hcx0')) hvx hwx
      · exact fun a ha b hb hab => Cidr.disjoint_comm.mp (hnew x j hcx0 v hv hvx w hw (hwx.trans hxe') b hb a ha hab.symm)
      · exact hnew x' j' hcx0' w hw hwx v hv (hvx.trans hxe)
      · exact absurd (hxe.trans hxe'.symm) hxne
    · intro j x hcx v hv hvx
      obtain ⟨o0, ho0, hn0, hl0, _⟩ := hold v hv
      rw [hl0]
      rcases (hcl x j).mp hcx with hcx0 | ⟨hxe, hje⟩
      · exact elig_addAssoc hc name (h.obj.elig j x hcx0 o0 ho0 (hn0 ▸ hvx))
      · rw [hje]
        exact elig_addAssoc hc name (hEl o0 ho0 (by rw [← hn0, hvx, hxe]))
  · intro v hv z hz hn hd
    rcases mem_putNode hz with rfl | ⟨hz, _⟩
    · exact h.delMono v hv y hym hn hd
    · exact h.delMono v hv z hz hn hd
  · intro g hg z hz
    rcases mem_putNode hz with rfl | ⟨hz, _⟩
    · exact h.gravesFresh g hg y hym
    · exact h.gravesFresh g hg z hz
  · intro j x hcx
    rcases (hcl x j).mp hcx with hcx0 | ⟨hxe, hje⟩
    · obtain ⟨w, hwm, hwn, hw0, hu⟩ := h.own j x hcx0
      refine ⟨w, ?_, hwn, hw0, fun cd hcd => (hus j cd).mpr (hu cd hcd)⟩
      rcases List.mem_append.mp hwm with hwm | hwm
      · exact List.mem_append_left _ (mem_putNode_of_ne hwm (by rw [hwn, hyn]; exact hxn hcx0))
      · exact List.mem_append_right _ hwm
    · exact ⟨{ y with cidrs := cidrs }, List.mem_append_left _ (mem_putNode_self _ _), hyn.trans hxe.symm, hne,
        fun cd hcd => (hus j cd).mpr (hje ▸ (hU cd hcd).1)⟩
  · intro j j' x hcx hcx'
    rcases (hcl x j).mp hcx with hcx0 | ⟨hxe, hje⟩ <;> rcases (hcl x j').mp hcx' with hcx0' | ⟨hxe', hje'⟩
    · exact h.uniq j j' x hcx0 hcx0'
    · exact absurd hxe' (hxn hcx0)
    · exact absurd hxe (hxn hcx0')
    · exact hje.trans hje'.symm
  · intro v hvm hv0 hcond
    -- the written object is recorded now; any other is an old one, recorded before
    obtain rfl | hvold : v = { y with cidrs := cidrs } ∨ v ∈ sP.api.nodes ++ sP.nodeView :=
      (List.mem_append.mp hvm).elim (fun hv => (mem_putNode hv).imp_right fun hv => List.mem_append_left _ hv.1)
        fun hv => Or.inr (List.mem_append_right _ hv)
    · exact ⟨i, (hcl _ i).mpr (Or.inr ⟨hyn, rfl⟩), fun cd hcd => (hus i cd).mpr (hU cd hcd).1⟩
    · obtain ⟨j, hcj, huj⟩ := h.held v hvold hv0 hcond
      exact ⟨j, (hcl _ j).mpr (Or.inl hcj), fun cd hcd => (hus j cd).mpr (huj cd hcd)⟩
  · intro j x hcx
    rcases (hcl x j).mp hcx with hcx0 | ⟨hxe, _⟩
    · exact h.pend j x hcx0
    · rw [hxe]; exact hView

/-- the PATCH loop when no write is applied but reported as failed -/
theorem patchLoop_cases (a : Api) (name : String) (cidrs : List Cidr) : ∀ (k : Nat) (ws : List WOut) (acc : List (String × List Cidr × String)),
    (∀ w ∈ ws.take k, w ≠ WOut.lost) →
    ((patchLoop a name cidrs k ws acc).1 = a ∧ (patchLoop a name cidrs k ws acc).2.1 = false) ∨
    ((patchLoop a name cidrs k ws acc).2.1 = true ∧ (a.patchNode name cidrs).2 = true ∧
      (patchLoop a name cidrs k ws acc).1 = (a.patchNode name cidrs).1) := by
  intro k ws acc hws
  cases h : (patchLoop a name cidrs k ws acc).2.1 with
  | false => exact Or.inl ⟨patchLoop_failed hws h, rfl⟩
  | true => exact Or.inr ⟨rfl, patchLoop_ok h⟩

theorem hasCidrs_false {n : NodeObj} (h : n.hasCidrs = false) : n.junk = false ∧ n.cidrs = [] := hasCidrs_false_iff.mp h

theorem elig_of_mem_ordered {a : Alloc} {ls : Labels} {i : Nat} (h : i ∈ a.ordered ls true) : Elig a i ls := by
  obtain ⟨c, hg, _, hm⟩ := C17.mem_ordered.mp h
  exact ⟨c, hg, hm.imp_right beq_iff_eq.mpr⟩

theorem Inv.congr' {s s' : Sys} (h : Inv s) (hn : s'.api.nodes = s.api.nodes) (hg : s'.api.graves = s.api.graves)
    (hv : s'.nodeView = s.nodeView) (hal : s'.alloc = s.alloc) : Inv s' := by
  obtain ⟨⟨nodes, ccs, graves⟩, nv, cv, al, nq, cq, sv⟩ := s
  obtain ⟨⟨nodes', ccs', graves'⟩, nv', cv', al', nq', cq', sv'⟩ := s'
  simp only at hn hg hv hal
  subst hn hg hv hal
  exact ⟨h.wf, h.rd, h.nodupApi, h.nodupView, h.nodupGraves, h.graveOrApi, h.obj, h.delMono, h.gravesFresh, h.own, h.uniq,
    h.held, h.pend⟩

theorem Inv.congr {s s' : Sys} (h : Inv s) (ha : s'.api = s.api) (hv : s'.nodeView = s.nodeView) (hal : s'.alloc = s.alloc) :
    Inv s' := h.congr' (congrArg Api.nodes ha) (congrArg Api.graves ha) hv hal

/-- two entries with the same associations, selector and pools (terminating flag and name may differ) -/
def SameCC (c c' : CC) : Prop := c'.assoc = c.assoc ∧ c'.key = c.key ∧ c'.reqs = c.reqs ∧ ∀ g, c'.pool g = c.pool g

/-- the entries of `a'` are those of `a` under the partial renumbering `φ`; entries dropped or added associate no node -/
structure Remap (a a' : Alloc) (φ : Nat → Option Nat) : Prop where
  fwd : ∀ j c, a.get? j = some c → (φ j = none ∧ c.assoc = []) ∨ ∃ j' c', φ j = some j' ∧ a'.get? j' = some c' ∧ SameCC c c'
  bwd : ∀ j' c', a'.get? j' = some c' → c'.assoc = [] ∨ ∃ j c, φ j = some j' ∧ a.get? j = some c ∧ SameCC c c'

theorem Remap.claims_bwd {a a' : Alloc} {φ : Nat → Option Nat} (h : Remap a a' φ) {x : String} {j' : Nat}
    (hc : Claims a' x j') : ∃ j, φ j = some j' ∧ Claims a x j := by
  obtain ⟨c', hg, hx⟩ := hc
  rcases h.bwd j' c' hg with h0 | ⟨j, c, hφ, hgc, hs⟩
  · rw [h0] at hx; cases hx
  · exact ⟨j, hφ, c, hgc, by rw [← hs.1]; exact hx⟩

theorem Remap.claims_fwd {a a' : Alloc} {φ : Nat → Option Nat} (h : Remap a a' φ) {x : String} {j : Nat}
    (hc : Claims a x j) : ∃ j', φ j = some j' ∧ Claims a' x j' := by
  obtain ⟨c, hg, hx⟩ := hc
  rcases h.fwd j c hg with ⟨_, h0⟩ | ⟨j', c', hφ, hgc, hs⟩
  · rw [h0] at hx; cases hx
  · exact ⟨j', hφ, c', hgc, by rw [hs.1]; exact hx⟩

theorem Remap.at_fwd {a a' : Alloc} {φ : Nat → Option Nat} (h : Remap a a' φ) {P : CC → Prop}
    (hP : ∀ c c', SameCC c c' → P c → P c') {j j' : Nat} (hφ : φ j = some j') (hj : a.At j P) : a'.At j' P := by
  obtain ⟨c, hg, hp⟩ := hj
  rcases h.fwd j c hg with ⟨h0, _⟩ | ⟨j'', c', hφ', hgc, hs⟩
  · rw [h0] at hφ; cases hφ
  · rw [hφ] at hφ'; cases hφ'
    exact ⟨c', hgc, hP c c' hs hp⟩

theorem Remap.usedAt {a a' : Alloc} {φ : Nat → Option Nat} (h : Remap a a' φ) {j j' : Nat} (hφ : φ j = some j') {cd : Cidr}
    (hu : UsedAt a j cd) : UsedAt a' j' cd :=
  usedAt_iff.mpr (h.at_fwd (fun _ _ hs => by unfold Restart.InUse; rw [hs.2.2.2]; exact id) hφ (usedAt_iff.mp hu))

theorem Remap.elig {a a' : Alloc} {φ : Nat → Option Nat} (h : Remap a a' φ) {j j' : Nat} (hφ : φ j = some j') {ls : Labels}
    (he : Elig a j ls) : Elig a' j' ls :=
  h.at_fwd (fun _ _ hs hm => by rw [hs.2.2.1, hs.2.1]; exact hm) hφ he

/-- the set of mapped ClusterCIDRs changed (one mapped, one marked terminating, one without associated nodes dropped) -/
theorem inv_remap {s : Sys} (h : Inv s) {a' : Alloc} {φ : Nat → Option Nat} (hr : Remap s.alloc a' φ)
    (hwf : a'.WF) (hrd : RangesDisj a') : Inv { s with alloc := a' } :=
  h.move (R := fun _ => False) hwf hrd (fun _ _ hc => ⟨id, hr.claims_bwd hc⟩) (fun _ _ hc _ => hr.claims_fwd hc)
    (fun _ _ _ hφ => hr.elig hφ) (fun _ _ _ _ _ hφ _ _ _ _ _ => hr.usedAt hφ)
    (fun _ => id) (fun _ hv _ => hv) h.nodupView (fun _ _ => False.elim) (fun _ _ => False.elim)

theorem SameCC.refl (c : CC) : SameCC c c := ⟨rfl, rfl, rfl, fun _ => rfl⟩

theorem remap_append (a : Alloc) (c : CC) (hc : c.assoc = []) : Remap a ⟨a.ccs ++ [c]⟩ some := by
  constructor
  · exact fun j d hd => Or.inr ⟨j, d, rfl, Alloc.get?_append_left c hd, SameCC.refl d⟩
  · intro j' d' hd'
    rcases Alloc.get?_append hd' with hd' | rfl
    · exact Or.inr ⟨j', d', rfl, hd', SameCC.refl d'⟩
    · exact Or.inl hc

theorem remap_set_term (a : Alloc) (i : Nat) (c : CC) (hg : a.get? i = some c) :
    Remap a (a.set i { c with term := true }) some := by
  have hs : SameCC c { c with term := true } := ⟨rfl, rfl, rfl, term_pool c true⟩
  constructor
  · intro j d hd
    right
    by_cases hij : i = j
    · subst hij
      rw [hg] at hd; cases hd
      exact ⟨i, _, rfl, Alloc.get?_set_self _ _ _ _ hg, hs⟩
    · exact ⟨j, d, rfl, by rw [Alloc.get?_set_ne _ _ _ _ hij]; exact hd, SameCC.refl d⟩
  · intro j' d' hd'
    right
    by_cases hij : i = j'
    · subst hij
      rw [Alloc.get?_set_self _ _ _ _ hg] at hd'; cases hd'
      exact ⟨i, c, rfl, hg, hs⟩
    · rw [Alloc.get?_set_ne _ _ _ _ hij] at hd'
      exact ⟨j', d', rfl, hd', SameCC.refl d'⟩

def dropMap (i : Nat) (j : Nat) : Option Nat := if j < i then some j else if j = i then none else some (j - 1)

/-- position `k` after entry `i` was dropped is what position `k`, or `k + 1`, was before -/
theorem dropMap_lift (i k : Nat) : dropMap i (if k < i then k else k + 1) = some k := by
  unfold dropMap
  by_cases h : k < i
  · rw [if_pos h, if_pos h]
  · rw [if_neg h, if_neg (by omega), if_neg (by omega)]; rfl

theorem remap_erase (a : Alloc) (i : Nat) (c : CC) (hg : a.get? i = some c) (hc : c.assoc = []) :
    Remap a ⟨a.ccs.eraseIdx i⟩ (dropMap i) := by
  constructor
  · intro j d hd
    by_cases h2 : j = i
    · subst h2
      rw [hg] at hd; cases hd
      exact Or.inl ⟨by unfold dropMap; rw [if_neg (Nat.lt_irrefl j), if_pos rfl], hc⟩
    · -- position `j` becomes `k`: itself below `i`, one less above
      obtain ⟨k, rfl⟩ : ∃ k, (if k < i then k else k + 1) = j := by
        by_cases h1 : j < i
        · exact ⟨j, if_pos h1⟩
        · have hij : i < j := Nat.lt_of_le_of_ne (Nat.le_of_not_lt h1) (Ne.symm h2)
          exact ⟨j - 1, by rw [if_neg (Nat.not_lt.mpr (Nat.le_sub_one_of_lt hij)), Nat.sub_add_cancel (Nat.zero_lt_of_lt hij)]⟩
      exact Or.inr ⟨k, d, dropMap_lift i k, by rw [Alloc.get?_eraseIdx]; exact hd, SameCC.refl d⟩
  · intro j' d' hd'
    rw [Alloc.get?_eraseIdx] at hd'
    exact Or.inr ⟨_, d', dropMap_lift i j', hd', SameCC.refl d'⟩

theorem delFirst_cases (key name : String) : ∀ (l l' : List CC) (r : DelResult), delFirst key name l = (l', r) →
    l' = l ∨ (∃ i c, l[i]? = some c ∧ l' = l.set i { c with term := true }) ∨
    (∃ i c, l[i]? = some c ∧ c.assoc = [] ∧ l' = l.eraseIdx i) :=
  delFirst_shape key name

theorem attemptUpdate_graves (a : Api) (name : String) (rv : Nat) (fins : List String) (w : WOut) :
    (attemptUpdate a name rv fins w).1.graves = a.graves :=
  (attemptUpdate_nodes_graves a name rv fins w).2

theorem buildCC_assoc {key : String} {reqs : List Req} {name : String} {spec : CCSpec} {t : Bool} {c : CC}
    (h : buildCC key reqs name spec t = some c) : c.assoc = [] := by
  obtain ⟨_, _, _, _, _, rfl⟩ := buildCC_eq_some h
  rfl

theorem get?_mk_set (l : List CC) (i : Nat) (c : CC) : (Alloc.mk l).set i c = ⟨l.set i c⟩ := rfl

/-- what the fragment asks of a ClusterCIDR about to be mapped: ranges the model's theorems cover, disjoint from
the ranges already mapped -/
def NewCCOK (s : Sys) (obj : CCObj) : Prop :=
  C09.SpecOK obj.spec ∧ ∀ al, s.alloc.createCC obj.name obj.spec false = some al → RangesDisj al

/-- The events of the fragment.  Excluded, each because of a recorded finding or because it is outside this
theorem's scope: restarts (P10, P12), label edits (P8), nodes created with or handed pod CIDRs by somebody
else (P18), re-creation of a node before its deletion was delivered (P21), tombstones that carry a stale state
(P19), node writes that are applied but reported as failed (P13), and ClusterCIDRs whose ranges overlap ranges
already mapped (P9, P11, P12, P22).  ClusterCIDRs with ranges disjoint from the mapped ones may be created and
deleted at any time, with any write outcomes, retried, notified late. -/
def Frag (s : Sys) : Ev → Prop
  | .nodeAdd n => n.cidrs = [] ∧ n.junk = false ∧ getNode s.nodeView n.name = none
  | .nodeDel _ => True
  | .nodeDeleting _ => True
  | .deliverNode name tomb => tomb = true → (getNode s.api.nodes name).isSome = true
  | .procNode _ _ ws => ∀ w ∈ ws.take 3, w ≠ WOut.lost
  | .ccAdd _ _ => True
  | .ccDel _ => True
  | .ccGen _ _ => True
  | .ccAddFin _ _ => True
  | .deliverCC _ => True
  | .procCC name _ => ∀ obj, getCC s.ccView name = some obj → obj.deleting = false → NewCCOK s obj
  | _ => False

/-- every event of the history is in the fragment, judged in the state it happens in -/
def FragAll : Sys → List Ev → Prop
  | _, [] => True
  | s, e :: rest => Frag s e ∧ FragAll (step s e).1 rest

/-- a controller that has mapped ClusterCIDRs with pairwise disjoint ranges, associates no node yet, and a cluster
whose nodes have no pod CIDRs and have not been shown to the controller -/
theorem inv_init (s : Sys) (hwf : s.alloc.WF) (hrd : RangesDisj s.alloc)
    (hassoc : ∀ i c, s.alloc.get? i = some c → c.assoc = [])
    (hview : s.nodeView = []) (hgraves : s.api.graves = [])
    (hnodup : (s.api.nodes.map (·.name)).Nodup)
    (hnodes : ∀ y ∈ s.api.nodes, y.cidrs = [] ∧ y.junk = false) : Inv s := by
  have hnc : ∀ {x i}, ¬ Claims s.alloc x i := by
    rintro x i ⟨c, hc, hx⟩
    rw [hassoc i c hc] at hx; cases hx
  have hV : ∀ {v}, v ∉ s.nodeView := fun hv => by rw [hview] at hv; cases hv
  have hG : ∀ {g}, g ∉ s.api.graves := fun hg => by rw [hgraves] at hg; cases hg
  have hobjs : ∀ v ∈ Objs s, v ∈ s.api.nodes := fun v hv =>
    (mem_objs.mp hv).elim id fun hv => hv.elim (absurd · hV) (absurd · hG)
  refine ⟨hwf, hrd, hnodup, hview ▸ List.nodup_nil, hgraves ▸ List.nodup_nil, fun v hv => absurd hv hV, ⟨?_, ?_, ?_, ?_, ?_, ?_⟩,
    fun v hv => absurd hv hV, fun g hg => absurd hg hG, fun i x hc => absurd hc hnc, fun i j x hc => absurd hc hnc, ?_,
    fun i x hc => absurd hc hnc⟩
  · exact fun v hv => (hnodes v (hobjs v hv)).2
  · intro v hv cd hcd; rw [(hnodes v (hobjs v hv)).1] at hcd; cases hcd
  · exact fun v hv _ _ _ hv0 _ => absurd (hnodes v (hobjs v hv)).1 hv0
  · intro v hv w hw hn
    rw [eq_of_nodup_names hnodup (hobjs v hv) (hobjs w hw) hn]
  · exact fun i j x x' hc => absurd hc hnc
  · exact fun i x hc => absurd hc hnc
  · intro v hv hv0
    exact absurd (hnodes v ((List.mem_append.mp hv).resolve_right hV)).1 hv0

/-- `Inv` holds of any state whose cache is the API's node list and whose map records exactly the live holders (a
freshly synchronised controller: `Restart.inv_boot`); what `Inv` says of the API objects alone is taken from an earlier
state with the same nodes -/
theorem inv_of_exact {s s' : Sys} (h : Inv s) (hn : s'.api.nodes = s.api.nodes) (hg : s'.api.graves = s.api.graves)
    (hv : s'.nodeView = s.api.nodes) (hwf : s'.alloc.WF) (hrd : RangesDisj s'.alloc)
    (hcl : ∀ x i, Claims s'.alloc x i → ∃ v ∈ s.api.nodes, v.name = x ∧ v.deleting = false ∧ v.cidrs ≠ [] ∧
      (∀ cd ∈ v.cidrs, UsedAt s'.alloc i cd) ∧ Elig s'.alloc i v.labels)
    (huq : ∀ x i j, Claims s'.alloc x i → Claims s'.alloc x j → i = j)
    (hsv : ∀ v ∈ s.api.nodes, v.deleting = false → v.cidrs ≠ [] → ∃ i, Claims s'.alloc v.name i) : Inv s' := by
  have hobjs : Objs s' = s.api.nodes ++ s.api.nodes ++ s.api.graves := by unfold Objs; rw [hn, hv, hg]
  have hapi : ∀ {w}, w ∈ s.api.nodes → w ∈ Objs s := fun hw => List.mem_append_left _ (List.mem_append_left _ hw)
  -- an object of the new state is an API node or a final state; a name identifies an API node among them
  have hcases : ∀ {w}, w ∈ Objs s' → w ∈ s.api.nodes ∨ w ∈ s.api.graves := by
    intro w hw; rw [hobjs] at hw
    rcases List.mem_append.mp hw with hw | hw
    · exact Or.inl ((List.mem_append.mp hw).elim id id)
    · exact Or.inr hw
  have hsub : ∀ {w}, w ∈ Objs s' → w ∈ Objs s := fun hw => (hcases hw).elim hapi (List.mem_append_right _)
  have hident : ∀ {v}, v ∈ s.api.nodes → ∀ {w}, w ∈ Objs s' → w.name = v.name → w = v := by
    intro v hv w hw hnm
    rcases hcases hw with hw | hw
    · exact eq_of_nodup_names h.nodupApi hw hv hnm
    · exact absurd hnm (h.gravesFresh w hw v hv)
  refine ⟨hwf, hrd, hn ▸ h.nodupApi, hv ▸ h.nodupApi, hg ▸ h.nodupGraves, fun v hv' => Or.inl ⟨v, hn ▸ hv ▸ hv', rfl⟩,
    ⟨fun v hv => h.obj.nojunk v (hsub hv), fun v hv => h.obj.cidrWF v (hsub hv),
      fun v hv w hw => h.obj.coh v (hsub hv) w (hsub hw), fun v hv w hw => h.obj.lab v (hsub hv) w (hsub hw), ?_, ?_⟩,
    ?_, hn ▸ hg ▸ h.gravesFresh, ?_, fun i j x => huq x i j, ?_, ?_⟩
  · -- both objects are the recorded live API nodes, and those do not overlap
    intro i j x x' hci hcj hne v hv w hw hvx hwx
    obtain ⟨v0, hv0, hv0n, hv0d, _⟩ := hcl x i hci
    obtain ⟨w0, hw0, hw0n, hw0d, _⟩ := hcl x' j hcj
    rw [hident hv0 hv (hvx.trans hv0n.symm), hident hw0 hw (hwx.trans hw0n.symm)]
    exact h.noOverlap v0 hv0 w0 hw0 (by rw [hv0n, hw0n]; exact hne) hv0d hw0d
  · intro i x hci v hv hvx
    obtain ⟨v0, hv0, hv0n, _, _, _, hel⟩ := hcl x i hci
    rw [hident hv0 hv (hvx.trans hv0n.symm)]; exact hel
  · -- the cache is the API
    intro v hv' y hy hnm hd
    rw [hv] at hv'; rw [hn] at hy
    rw [← eq_of_nodup_names h.nodupApi hv' hy hnm]; exact hd
  · intro i x hci
    obtain ⟨v0, hv0, hv0n, _, hv0c, hv0u, _⟩ := hcl x i hci
    exact ⟨v0, List.mem_append_left _ (hn ▸ hv0), hv0n, hv0c, hv0u⟩
  · intro v hv' hne hlive
    rw [hn, hv] at hv'
    have hv' : v ∈ s.api.nodes := (List.mem_append.mp hv').elim id id
    have hvd : v.deleting = false := by
      rcases hlive with hl | ⟨w, hw, hwn, hwd⟩
      · exact hl
      · rw [← eq_of_nodup_names h.nodupApi (hv ▸ hw) hv' hwn]; exact hwd
    obtain ⟨i, hci⟩ := hsv v hv' hvd hne
    obtain ⟨v0, hv0, hv0n, _, _, hv0u, _⟩ := hcl v.name i hci
    exact ⟨i, hci, eq_of_nodup_names h.nodupApi hv0 hv' hv0n ▸ hv0u⟩
  · intro i x hci
    obtain ⟨v0, hv0, hv0n, _⟩ := hcl x i hci
    exact ⟨v0, hv ▸ hv0, hv0n⟩

/-! ### non-vacuity: a concrete start and a concrete history of the fragment in which nodes are served, deleted and served again -/

def exA : CC := ⟨defaultKey, defaultReqs, "a", some (Pool.new ⟨.v4, 0x0a000000, 26, 28⟩ "10.0.0.0/26"), none, [], false⟩
def exB : CC := ⟨"zone in (a)", [⟨"zone", .In, ["a"]⟩], "b", some (Pool.new ⟨.v4, 0x0a000100, 26, 28⟩ "10.0.1.0/26"),
  some (Pool.new ⟨.v6, 0xfd00 * 2 ^ 112, 122, 124⟩ "fd00::/122"), [], false⟩
def exStart : Sys :=
  { Sys.init with alloc := ⟨[exA, exB]⟩,
                  api := ⟨[⟨"n1", [("zone", "a")], [], false, false⟩, ⟨"n2", [], [], false, false⟩], [], []⟩ }

theorem exStart_get {i : Nat} {c : CC} (h : exStart.alloc.get? i = some c) : (i = 0 ∧ c = exA) ∨ (i = 1 ∧ c = exB) := by
  rcases i with _ | _ | i
  · exact Or.inl ⟨rfl, (Option.some.inj h).symm⟩
  · exact Or.inr ⟨rfl, (Option.some.inj h).symm⟩
  · cases h

theorem exStart_inv : Inv exStart := by
  apply inv_init
  · intro i c hc f p hp
    rcases exStart_get hc with ⟨_, rfl⟩ | ⟨_, rfl⟩ <;> cases f <;> simp [CC.pool, exA, exB] at hp <;>
      (subst hp; exact ⟨Pool.new_inv _ _, by decide, rfl⟩)
  · intro i j c d f p q hi hj hp hq hne
    rcases exStart_get hi with ⟨rfl, rfl⟩ | ⟨rfl, rfl⟩ <;> rcases exStart_get hj with ⟨rfl, rfl⟩ | ⟨rfl, rfl⟩
    · exact absurd rfl hne
    · cases f <;> simp [CC.pool, exA, exB] at hp hq
      subst hp hq; decide
    · cases f <;> simp [CC.pool, exA, exB] at hp hq
      subst hp hq; decide
    · exact absurd rfl hne
  · intro i c hc
    rcases exStart_get hc with ⟨_, rfl⟩ | ⟨_, rfl⟩ <;> rfl
  · rfl
  · rfl
  · decide
  · intro y hy
    simp [exStart] at hy
    rcases hy with rfl | rfl <;> exact ⟨rfl, rfl⟩

def exHistory : List Ev :=
  [.deliverNode "n1" false, .deliverNode "n2" false, .procNode "n1" false [.fail, .ok], .procNode "n2" true [],
   .nodeDeleting "n1", .deliverNode "n1" false, .procNode "n1" false [], .nodeDel "n1", .deliverNode "n1" false,
   .nodeAdd ⟨"n3", [], [], false, false⟩, .deliverNode "n3" false, .procNode "n3" false []]

example : FragAll exStart exHistory := by
  simp only [exHistory, FragAll, Frag]
  decide +kernel

example : (run exStart exHistory).api.nodes.map (fun n => (n.name, n.cidrs.map (·.addr))) =
    [("n2", [0x0a000000]), ("n3", [0x0a000010])] := by decide +kernel

end Ipam.Safety
