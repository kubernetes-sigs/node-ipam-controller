import IpamVerif.Frame
/-!
# The shape of the entries never changes (used by `Restart.lean`)

`sh c`: selector key, parsed selector, name and pool geometries of an entry — everything `createClusterCIDRSet`
derives from the ClusterCIDR object.  It is part of the frame (`Frame.lean`), so every allocator operation on the node
side (allocate, occupy, release, associate, the service filter) keeps the list of shapes `SH` as it is, with no
assumption on the state (`SH_of_frame`).
-/
namespace Ipam.Shape

/-- what an entry is made from: selector key, parsed selector, name, and the geometry of its pools -/
def sh (c : CC) : String × List Req × String × Option Geo × Option Geo := (c.key, c.reqs, c.name, c.v4.map (·.geo), c.v6.map (·.geo))
def SH (a : Alloc) : List (String × List Req × String × Option Geo × Option Geo) := a.ccs.map sh

theorem SH_of_frame {a a' : Alloc} (h : a'.frame = a.frame) : SH a' = SH a :=
  Alloc.map_of_frame (fun x => (x.key, x.reqs, x.name, x.geo4, x.geo6)) h

theorem SH_set_none {a : Alloc} {i : Nat} (c' : CC) (hg : a.get? i = none) : a.set i c' = a :=
  Alloc.set_none c' hg

theorem get?_set_self' {a : Alloc} {i : Nat} {c : CC} (d : CC) (hg : a.get? i = some c) : (a.set i d).get? i = some d :=
  Alloc.get?_set_self _ _ _ _ hg

end Ipam.Shape
