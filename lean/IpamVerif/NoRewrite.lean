import IpamVerif.ItemLemmas
/-!
# C08, the work item: a PATCH is issued only when the cache shows the node without pod CIDRs; processing a
node that has pod CIDRs writes nothing.  (The statement about what such a re-sync reserves is in `Props/C08.lean`.)
-/
namespace Ipam.C08

/-- **a PATCH is issued only when the controller's cache shows the node without pod CIDRs**
(the second read, inside `updateCIDRsAllocation`, after any refresh of the cache) -/
theorem patch_only_when_cache_shows_no_cidrs (s : Sys) (name : String) (cidrs : List Cidr) (i : Nat) (ws : List WOut)
    (h : (updateCIDRsAllocation s name cidrs i ws).2.patches ≠ []) :
    ∃ n2, getNode s.nodeView name = some n2 ∧ n2.hasCidrs = false := by
  rcases update_cases s name cidrs i with ⟨_, e⟩ | ⟨n2, hn2, ⟨_, _, e⟩ | ⟨_, _, e⟩ | ⟨_, hc, _⟩⟩
  · rw [e] at h; exact absurd rfl h
  · rw [e] at h; exact absurd rfl h
  · rw [e] at h; exact absurd rfl h
  · exact ⟨n2, hn2, hc⟩

/-- … and every PATCH of a work item is for that node and carries the CIDRs reserved for it -/
theorem patches_are_for_the_node (s : Sys) (name : String) (cidrs : List Cidr) (i : Nat) (ws : List WOut) :
    ∀ p ∈ (updateCIDRsAllocation s name cidrs i ws).2.patches, p.1 = name ∧ p.2.1 = cidrs := by
  have loop := fun p hp => (patchLoop_patches name cidrs 3 s.api ws [] p hp).resolve_left (nomatch ·)
  rcases update_cases s name cidrs i with ⟨_, e⟩ | ⟨n2, _, ⟨_, _, e⟩ | ⟨_, _, e⟩ | ⟨_, _, e⟩⟩ <;> rw [e]
  · exact fun _ hp => nomatch hp
  · exact fun _ hp => nomatch hp
  · exact fun _ hp => nomatch hp
  · split <;> exact loop

/-- **processing a node that already has pod CIDRs changes nothing in the cluster**: no PATCH, no
ClusterCIDR write, no event, API state and caches untouched — whatever the write outcomes offered,
with or without a concurrent cache refresh, any number of times -/
theorem resync_writes_nothing (s : Sys) (n : NodeObj) (refresh : Bool) (ws : List WOut) (h : n.hasCidrs = true) :
    (allocateOrOccupy s n refresh ws).2.patches = [] ∧ (allocateOrOccupy s n refresh ws).2.ccWrites = [] ∧
    (allocateOrOccupy s n refresh ws).2.events = [] ∧ (allocateOrOccupy s n refresh ws).1.api = s.api ∧
    (allocateOrOccupy s n refresh ws).1.nodeView = s.nodeView ∧ (allocateOrOccupy s n refresh ws).1.ccView = s.ccView ∧
    (allocateOrOccupy s n refresh ws).1.nodeQ = s.nodeQ := by
  rcases allocate_cases s n refresh with ⟨_, e⟩ | ⟨hc, _⟩
  · rw [e]; exact ⟨rfl, rfl, rfl, rfl, rfl, rfl, rfl⟩
  · rw [h] at hc; cases hc

/-- the only thing such a step may touch is the in-memory reservation state, through `occupyCIDRs` of
that node's own CIDRs -/
theorem resync_alloc (s : Sys) (n : NodeObj) (refresh : Bool) (ws : List WOut) (h : n.hasCidrs = true) :
    (allocateOrOccupy s n refresh ws).1.alloc = (occupyCIDRs s.alloc n).1 := by
  rcases allocate_cases s n refresh with ⟨_, e⟩ | ⟨hc, _⟩
  · rw [e]
  · rw [h] at hc; cases hc

example : (allocateOrOccupy Sys.init ⟨"n1", [], [⟨.v4, 0x0a000000, 28⟩], false, false⟩ false []).2.patches = [] := by decide

end Ipam.C08
