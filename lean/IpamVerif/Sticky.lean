import IpamVerif.OnePer
/-!
# Once terminating, never used again (C06, second half, over whole histories)

`KNT a`: the list of (selector key, name, terminating flag) of the mapped entries.  Every operation of the node side —
the allocation loop with its roll-back, `occupyCIDRs`, `ReleaseCIDR`, associations, the service filter — keeps that
list exactly, since it keeps the frames (`KNT_of_frame`, `Frame.lean`; no well-formedness needed); `createCC` only
appends an entry for an unmapped pair, `deleteCC` flags or drops one entry.  Hence `NoRevival`: a pair that serves nodes
after an event served before it or was not mapped at all — for every event except a restart (`step_noRevival`), and so
for every history without one (`run_dead`).  A restart rebuilds the map from the API objects and is covered by
`Restart.lean` on its fragment.
-/
namespace Ipam.Sticky
open Ipam.OnePer

def knt (c : CC) : String × String × Bool := (c.key, c.name, c.term)
def KNT (a : Alloc) : List (String × String × Bool) := a.ccs.map knt

theorem KNT_of_frame {a a' : Alloc} (h : a'.frame = a.frame) : KNT a' = KNT a :=
  Alloc.map_of_frame (fun x => (x.key, x.name, x.term)) h

theorem KNT_set_none {a : Alloc} {i : Nat} (c' : CC) (hg : a.get? i = none) : a.set i c' = a :=
  Alloc.set_none c' hg

theorem get?_set_self'' {a : Alloc} {i : Nat} {c : CC} (d : CC) (hg : a.get? i = some c) : (a.set i d).get? i = some d :=
  Alloc.get?_set_self _ _ _ _ hg

theorem KNT_filterService (a : Alloc) (svc : Cidr) : KNT (a.filterService svc) = KNT a :=
  KNT_of_frame (a.frame_filterService svc)

/-- the (selector key, name) pairs of the entries that may serve nodes -/
def Live (a : Alloc) : List (String × String) := (a.ccs.filter (fun c => !c.term)).map kn

theorem mem_Live {a : Alloc} {p : String × String} : p ∈ Live a ↔ (p.1, p.2, false) ∈ KNT a := by
  simp only [Live, KNT, List.mem_map, List.mem_filter, Bool.not_eq_true']
  constructor
  · rintro ⟨c, ⟨hc, ht⟩, rfl⟩
    exact ⟨c, hc, by rw [knt, ht]; rfl⟩
  · rintro ⟨c, hc, hk⟩
    simp only [knt, Prod.mk.injEq] at hk
    exact ⟨c, ⟨hc, hk.2.2⟩, Prod.ext hk.1 hk.2.1⟩

/-- "whoever serves afterwards served before or was not there at all": no entry that is terminating is ever revived -/
def NoRevival (a a' : Alloc) : Prop := ∀ p ∈ Live a', p ∈ Live a ∨ p ∉ KN a

theorem NoRevival.of_KNT {a a' : Alloc} (h : KNT a' = KNT a) : NoRevival a a' := by
  intro p hp
  left
  rw [mem_Live] at hp ⊢
  rw [← h]; exact hp

theorem noRevival_createCC {a al : Alloc} {name : String} {spec : CCSpec} {t : Bool}
    (hc : a.createCC name spec t = some al) : NoRevival a al := by
  rcases createCC_cases hc with rfl | ⟨c, rfl, hnew⟩
  · exact NoRevival.of_KNT rfl
  · intro p hp
    unfold Live at hp
    rw [List.filter_append, List.map_append, List.mem_append] at hp
    rcases hp with hp | hp
    · exact .inl hp
    · obtain ⟨d, hd, rfl⟩ := List.mem_map.mp hp
      rw [List.mem_singleton.mp (List.mem_filter.mp hd).1]
      exact .inr hnew

theorem noRevival_deleteCC (a : Alloc) (name : String) (spec : CCSpec) : NoRevival a (a.deleteCC name spec).1 := by
  intro p hp
  left
  obtain ⟨c, hc, hk⟩ := List.mem_map.mp hp
  obtain ⟨hc1, hc2⟩ := List.mem_filter.mp hc
  suffices c ∈ a.ccs from List.mem_map.mpr ⟨c, List.mem_filter.mpr ⟨this, hc2⟩, hk⟩
  rcases a.deleteCC_cases name spec with h1 | ⟨i, d, _, h1⟩ | ⟨i, _, _, _, h1⟩ <;> rw [h1] at hc1
  · exact hc1
  · rcases List.mem_or_eq_of_mem_set hc1 with h | h
    · exact h
    · rw [h] at hc2; cases hc2
  · exact (List.eraseIdx_sublist _ _).subset hc1

theorem NoRevival.of_touch {a a' : Alloc} (ht : a.Touch a') : NoRevival a a' := by
  cases ht with
  | frame h => exact .of_KNT (KNT_of_frame h)
  | create h => exact noRevival_createCC h
  | delete name spec => exact noRevival_deleteCC a name spec

/-- **no event but a restart revives a terminating entry**: node items of every kind (allocation with retries and
roll-back, recording, release, re-sync), notifications (the delete handler's release included), the service filter,
every ClusterCIDR item under every write outcome, every change made by others -/
theorem step_noRevival (s : Sys) (e : Ev) (hb : ∀ svcs ws, e ≠ .boot svcs ws) : NoRevival s.alloc (step s e).1.alloc := by
  rcases step_touch s e with ⟨svcs, ws, rfl⟩ | ht
  · exact absurd rfl (hb svcs ws)
  · exact .of_touch ht

/-- an entry that is mapped but serves nobody: terminating -/
def Dead (a : Alloc) (p : String × String) : Prop := p ∈ KN a ∧ p ∉ Live a

theorem step_dead (s : Sys) (e : Ev) (hb : ∀ svcs ws, e ≠ .boot svcs ws) (p : String × String) (h : Dead s.alloc p) :
    p ∉ KN (step s e).1.alloc ∨ Dead (step s e).1.alloc p := by
  by_cases hk : p ∈ KN (step s e).1.alloc
  · right
    refine ⟨hk, fun hl => ?_⟩
    rcases step_noRevival s e hb p hl with h1 | h1
    · exact h.2 h1
    · exact h1 h.1
  · left; exact hk

/-- **once terminating, never used again** — every history without a restart, no other assumption: from the moment an
entry is terminating it serves nobody in any later state, up to the moment it is removed from the map (after which
a new object of that name is a new ClusterCIDR) -/
theorem run_dead : ∀ (evs : List Ev) (s : Sys) (p : String × String), Dead s.alloc p →
    (∀ e ∈ evs, ∀ svcs ws, e ≠ .boot svcs ws) →
    p ∉ Live (run s evs).alloc ∨ ∃ pre post, evs = pre ++ post ∧ p ∉ KN (run s pre).alloc := by
  intro evs
  induction evs with
  | nil => intro s p h _; left; exact h.2
  | cons e rest ih =>
    intro s p h hb
    rcases step_dead s e (hb e (List.mem_cons_self ..)) p h with h1 | h1
    · right; exact ⟨[e], rest, rfl, h1⟩
    · rcases ih (step s e).1 p h1 (fun e' he' => hb e' (List.mem_cons_of_mem _ he')) with h2 | ⟨pre, post, he, h2⟩
      · left; exact h2
      · right; exact ⟨e :: pre, post, by rw [he]; rfl, h2⟩

end Ipam.Sticky
