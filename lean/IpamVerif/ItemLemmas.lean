import IpamVerif.ApiLemmas
/-!
# The work items, branch by branch

`updateCIDRsAllocation` and `allocateOrOccupy` are nests of `match`/`if`; a proof that unfolds one and splits it pays
for the whole term in every branch.  Here each is restated once as a disjunction "this condition holds and, for every
list of write outcomes, the value is this record" (`update_cases`, `allocate_cases`, `procNodeCore_cases`; for the
ClusterCIDR item `createClusterCIDR_cases`, `reconcileDelete_cases`, `procCCCore_cases`): the branch is decided before
the first write.  `procNode` and `procCC` are their sync followed by the queue's bookkeeping (`procNode_eq`,
`procCC_eq`).  The API after a node item is the API before or that of one PATCH loop (`procNode_api`).
-/
namespace Ipam

/-- `clusterCIDR.AssociatedNodes[name] = true` on entry `i` -/
def Alloc.assoc (a : Alloc) (i : Nat) (name : String) : Alloc :=
  match a.get? i with
  | some c => a.set i (c.addAssoc name)
  | none => a

theorem Alloc.assoc_of_get {a : Alloc} {i : Nat} {c : CC} (h : a.get? i = some c) (name : String) :
    a.assoc i name = a.set i (c.addAssoc name) := by
  unfold Alloc.assoc; rw [h]

/-- The branch `updateCIDRsAllocation` takes is decided by the cache alone; the write outcomes only decide how the PATCH
loop of the last branch ends. -/
theorem update_cases (s : Sys) (name : String) (cidrs : List Cidr) (i : Nat) :
    (getNode s.nodeView name = none ∧ ∀ ws,
      updateCIDRsAllocation s name cidrs i ws = ({ s with alloc := (s.alloc.releaseAll i cidrs).1 }, { res := "err" })) ∨
    ∃ n2, getNode s.nodeView name = some n2 ∧
      ((n2.junk = false ∧ n2.cidrs = cidrs ∧ ∀ ws,
        updateCIDRsAllocation s name cidrs i ws = ({ s with alloc := s.alloc.assoc i name }, { res := "ok" })) ∨
       (¬ (n2.junk = false ∧ n2.cidrs = cidrs) ∧ n2.hasCidrs = true ∧ ∀ ws,
        updateCIDRsAllocation s name cidrs i ws =
          ({ s with alloc := (s.alloc.releaseAll i cidrs).1 }, { res := if (s.alloc.releaseAll i cidrs).2 then "ok" else "err" })) ∨
       (¬ (n2.junk = false ∧ n2.cidrs = cidrs) ∧ n2.hasCidrs = false ∧ ∀ ws,
        updateCIDRsAllocation s name cidrs i ws =
          if (patchLoop s.api name cidrs 3 ws []).2.1 then
            ({ s with api := (patchLoop s.api name cidrs 3 ws []).1, alloc := s.alloc.assoc i name },
             { res := "ok", patches := (patchLoop s.api name cidrs 3 ws []).2.2 })
          else
            ({ s with api := (patchLoop s.api name cidrs 3 ws []).1, alloc := (s.alloc.releaseAll i cidrs).1 },
             { res := "err", patches := (patchLoop s.api name cidrs 3 ws []).2.2, events := ["CIDRAssignmentFailed"] }))) := by
  cases hv : getNode s.nodeView name with
  | none => exact Or.inl ⟨rfl, fun _ => by unfold updateCIDRsAllocation; rw [hv]⟩
  | some n2 =>
    refine Or.inr ⟨n2, rfl, ?_⟩
    by_cases h1 : n2.junk = false ∧ n2.cidrs = cidrs
    · refine Or.inl ⟨h1.1, h1.2, fun _ => ?_⟩
      unfold updateCIDRsAllocation
      simp only [hv, h1.1, h1.2, Bool.not_false, decide_true, Bool.and_self, if_true]; rfl
    · have h1' : ¬ (!n2.junk && decide (n2.cidrs = cidrs)) = true := by simpa using h1
      by_cases h2 : n2.hasCidrs = true
      · refine Or.inr (Or.inl ⟨h1, h2, fun _ => ?_⟩)
        unfold updateCIDRsAllocation
        simp only [hv, if_neg h1', if_pos h2]
        split <;> (rename_i heq; rw [heq]; rfl)
      · refine Or.inr (Or.inr ⟨h1, by simpa using h2, fun ws => ?_⟩)
        unfold updateCIDRsAllocation
        simp only [hv, if_neg h1', if_neg h2]; rfl

/-- Likewise `allocateOrOccupy`.  When the node has left the cache in the middle, the second half can only fail on its
read, so that branch is closed: the reservation is given back and the delete handler's release follows. -/
theorem allocate_cases (s : Sys) (n : NodeObj) (refresh : Bool) :
    (n.hasCidrs = true ∧ ∀ ws, allocateOrOccupy s n refresh ws =
      ({ s with alloc := (occupyCIDRs s.alloc n).1 }, { res := if (occupyCIDRs s.alloc n).2 then "ok" else "err" })) ∨
    (n.hasCidrs = false ∧ ∃ al r, s.alloc.prioritized (s.alloc.ordered n.labels true) = (al, r) ∧ (
      ((r = none ∨ ∃ i, r = some ([], i)) ∧ ∀ ws,
        allocateOrOccupy s n refresh ws = ({ s with alloc := al }, { res := "err", events := ["CIDRNotAvailable"] })) ∨
      ∃ cidrs i, r = some (cidrs, i) ∧ cidrs ≠ [] ∧
        ((refresh = false ∧ ∀ ws,
            allocateOrOccupy s n refresh ws = updateCIDRsAllocation { s with alloc := al } n.name cidrs i ws) ∨
         (refresh = true ∧ ∃ cur, getNode s.api.nodes n.name = some cur ∧ ∀ ws,
            allocateOrOccupy s n refresh ws = updateCIDRsAllocation
              { s with alloc := al, nodeView := putNode s.nodeView cur, nodeQ := qAdd s.nodeQ n.name } n.name cidrs i ws) ∨
         (refresh = true ∧ getNode s.api.nodes n.name = none ∧ ∀ ws,
            allocateOrOccupy s n refresh ws =
              ({ s with alloc := (releaseCIDR (al.releaseAll i cidrs).1 ((getNode s.api.graves n.name).getD n)).1,
                        nodeView := delNode s.nodeView n.name, nodeQ := qAdd s.nodeQ n.name }, { res := "err" }))))) := by
  by_cases hc : n.hasCidrs = true
  · refine Or.inl ⟨hc, fun _ => ?_⟩
    unfold allocateOrOccupy
    rw [if_pos hc]
    split <;> (rename_i heq; rw [heq]; rfl)
  · refine Or.inr ⟨by simpa using hc, ?_⟩
    cases hp : s.alloc.prioritized (s.alloc.ordered n.labels true) with
    | mk al r =>
      refine ⟨al, r, rfl, ?_⟩
      cases r with
      | none => exact Or.inl ⟨Or.inl rfl, fun _ => by unfold allocateOrOccupy; simp only [if_neg hc, hp]⟩
      | some ci =>
        obtain ⟨cidrs, i⟩ := ci
        cases cidrs with
        | nil => exact Or.inl ⟨Or.inr ⟨i, rfl⟩, fun _ => by unfold allocateOrOccupy; simp only [if_neg hc, hp, List.isEmpty_nil, if_true]⟩
        | cons c cs =>
          refine Or.inr ⟨c :: cs, i, rfl, List.cons_ne_nil _ _, ?_⟩
          have second : ∀ ws, allocateOrOccupy s n refresh ws = _ := fun ws => by
            unfold allocateOrOccupy
            simp only [if_neg hc, hp, List.isEmpty_cons, Bool.false_eq_true, if_false]
            rfl
          cases refresh with
          | false => exact Or.inl ⟨rfl, fun ws => (second ws).trans (by simp only [Bool.false_eq_true, if_false])⟩
          | true =>
            cases hg : getNode s.api.nodes n.name with
            | some cur => exact Or.inr (Or.inl ⟨rfl, cur, rfl, fun ws => (second ws).trans (by simp only [if_true, hg])⟩)
            | none =>
              -- the second half reads the node back from a cache that no longer has it
              have e := (update_cases { s with alloc := al, nodeView := delNode s.nodeView n.name, nodeQ := qAdd s.nodeQ n.name }
                n.name (c :: cs) i).elim (·.2) fun ⟨_, hv, _⟩ => nomatch (getNode_delNode_self s.nodeView n.name).symm.trans hv
              exact Or.inr (Or.inr ⟨rfl, rfl, fun ws => (second ws).trans (by simp only [if_true, hg, e ws])⟩)

theorem procNodeCore_cases (s : Sys) (name : String) (refresh : Bool) :
    (getNode s.nodeView name = none ∧ ∀ ws, procNodeCore s name refresh ws = (s, { res := "ok" })) ∨
    ∃ n, getNode s.nodeView name = some n ∧ n.name = name ∧
      ((n.deleting = true ∧ ∀ ws, procNodeCore s name refresh ws =
          ({ s with alloc := (releaseCIDR s.alloc n).1 }, { res := if (releaseCIDR s.alloc n).2 then "ok" else "err" })) ∨
       (n.deleting = false ∧ ∀ ws, procNodeCore s name refresh ws = allocateOrOccupy s n refresh ws)) := by
  unfold procNodeCore
  cases hv : getNode s.nodeView name with
  | none => exact Or.inl ⟨rfl, fun _ => rfl⟩
  | some n =>
    refine Or.inr ⟨n, rfl, (mem_of_getNode hv).2, ?_⟩
    by_cases hd : n.deleting = true
    · refine Or.inl ⟨hd, fun _ => ?_⟩
      simp only [if_pos hd]
      split <;> (rename_i heq; rw [heq]; rfl)
    · exact Or.inr ⟨by simpa using hd, fun _ => by simp only [if_neg hd]⟩

theorem procNode_eq (s : Sys) (name : String) (refresh : Bool) (ws : List WOut) :
    procNode s name refresh ws =
      ({ (procNodeCore { s with nodeQ := qDel s.nodeQ name } name refresh ws).1 with
          nodeQ := if (procNodeCore { s with nodeQ := qDel s.nodeQ name } name refresh ws).2.res == "err"
            then qAdd (procNodeCore { s with nodeQ := qDel s.nodeQ name } name refresh ws).1.nodeQ name
            else (procNodeCore { s with nodeQ := qDel s.nodeQ name } name refresh ws).1.nodeQ },
       (procNodeCore { s with nodeQ := qDel s.nodeQ name } name refresh ws).2) := by
  unfold procNode
  simp only
  split <;> rfl

theorem procCC_eq (s : Sys) (name : String) (w : WOut) :
    procCC s name w =
      ({ (procCCCore { s with ccQ := qDel s.ccQ name } name w).1 with
          ccQ := if (procCCCore { s with ccQ := qDel s.ccQ name } name w).2.res == "err"
            then qAdd (procCCCore { s with ccQ := qDel s.ccQ name } name w).1.ccQ name
            else (procCCCore { s with ccQ := qDel s.ccQ name } name w).1.ccQ },
       (procCCCore { s with ccQ := qDel s.ccQ name } name w).2) := by
  unfold procCC
  simp only
  split <;> rfl

theorem procNode_obs (s : Sys) (name : String) (refresh : Bool) (ws : List WOut) :
    (procNode s name refresh ws).2 = (procNodeCore { s with nodeQ := qDel s.nodeQ name } name refresh ws).2 := by
  rw [procNode_eq]

theorem procCC_obs (s : Sys) (name : String) (w : WOut) :
    (procCC s name w).2 = (procCCCore { s with ccQ := qDel s.ccQ name } name w).2 := by
  rw [procCC_eq]

/-! ### the API after a node item, as a function of the write outcomes -/

theorem update_api (t : Sys) (name : String) {cidrs : List Cidr} (hne : cidrs ≠ []) (i : Nat) :
    (∀ ws, (updateCIDRsAllocation t name cidrs i ws).1.api = t.api) ∨
    ∃ nm cs, cs ≠ [] ∧ ∀ ws, (updateCIDRsAllocation t name cidrs i ws).1.api = (patchLoop t.api nm cs 3 ws []).1 := by
  rcases update_cases t name cidrs i with ⟨_, e⟩ | ⟨n, _, ⟨_, _, e⟩ | ⟨_, _, e⟩ | ⟨_, _, e⟩⟩
  · exact .inl fun ws => by rw [e ws]
  · exact .inl fun ws => by rw [e ws]
  · exact .inl fun ws => by rw [e ws]
  · exact .inr ⟨name, cidrs, hne, fun ws => by rw [e ws]; split <;> rfl⟩

theorem procNode_api (s : Sys) (name : String) (refresh : Bool) :
    (∀ ws, (procNode s name refresh ws).1.api = s.api) ∨
    ∃ nm cs, cs ≠ [] ∧ ∀ ws, (procNode s name refresh ws).1.api = (patchLoop s.api nm cs 3 ws []).1 := by
  have hq : ∀ ws, (procNode s name refresh ws).1.api =
      (procNodeCore { s with nodeQ := qDel s.nodeQ name } name refresh ws).1.api := fun ws => by rw [procNode_eq]
  simp only [hq]
  rcases procNodeCore_cases { s with nodeQ := qDel s.nodeQ name } name refresh with ⟨_, e⟩ | ⟨n, _, _, ⟨_, e⟩ | ⟨_, e⟩⟩
  · exact .inl fun ws => by rw [e ws]
  · exact .inl fun ws => by rw [e ws]
  · simp only [e]
    rcases allocate_cases { s with nodeQ := qDel s.nodeQ name } n refresh with
      ⟨_, e⟩ | ⟨_, al, _, _, ⟨_, e⟩ | ⟨cidrs, i, _, hne, ⟨_, e⟩ | ⟨_, _, _, e⟩ | ⟨_, _, e⟩⟩⟩
    · exact .inl fun ws => by rw [e ws]
    · exact .inl fun ws => by rw [e ws]
    · simp only [e]; exact update_api { s with alloc := al, nodeQ := _ } n.name hne i
    · simp only [e]; exact update_api { s with alloc := al, nodeView := _, nodeQ := _ } n.name hne i
    · exact .inl fun ws => by rw [e ws]

/-- `createClusterCIDR`: the object cannot be mapped; or it is mapped (or was already) and the Update is sent -/
theorem createClusterCIDR_cases (s : Sys) (o : CCObj) (t : Bool) (w : WOut) :
    (s.alloc.createCC o.name o.spec t = none ∧ createClusterCIDR s o t w = (s, { res := "err" })) ∨
    ∃ al fins, s.alloc.createCC o.name o.spec t = some al ∧
      fins = (if needFin o = true then o.finalizers ++ [finalizerName] else o.finalizers) ∧
      createClusterCIDR s o t w =
        ({ s with alloc := al, api := (attemptUpdate s.api o.name o.rv fins w).1 },
         { res := if (attemptUpdate s.api o.name o.rv fins w).2.1 then "ok" else "err",
           ccWrites := [(o.name, fins, (attemptUpdate s.api o.name o.rv fins w).2.2)] }) := by
  unfold createClusterCIDR
  split
  · exact Or.inl ⟨‹_›, rfl⟩
  · exact Or.inr ⟨_, _, ‹_›, rfl, rfl⟩

/-- `reconcileDelete`: the controller's finalizer is not on the object; or the entry cannot be unmapped (nodes depend on
it, no selector key); or it is unmapped (or was not mapped) and the Update that removes the finalizer is sent -/
theorem reconcileDelete_cases (s : Sys) (o : CCObj) (w : WOut) :
    (hasFin o = false ∧ reconcileDelete s o w = (s, { res := "ok" })) ∨
    (hasFin o = true ∧
      ((((s.alloc.deleteCC o.name o.spec).2 = .keyError ∨ (s.alloc.deleteCC o.name o.spec).2 = .hasNodes) ∧
        reconcileDelete s o w = ({ s with alloc := (s.alloc.deleteCC o.name o.spec).1 }, { res := "err" })) ∨
       (((s.alloc.deleteCC o.name o.spec).2 = .removed ∨ (s.alloc.deleteCC o.name o.spec).2 = .notFound) ∧
        ∃ fins, fins = o.finalizers.filter (· != finalizerName) ∧
        reconcileDelete s o w =
          ({ s with alloc := (s.alloc.deleteCC o.name o.spec).1, api := (attemptUpdate s.api o.name o.rv fins w).1 },
           { res := if (attemptUpdate s.api o.name o.rv fins w).2.1 then "ok" else "err",
             ccWrites := [(o.name, fins, (attemptUpdate s.api o.name o.rv fins w).2.2)] })))) := by
  unfold reconcileDelete
  cases hf : hasFin o with
  | false => exact Or.inl ⟨rfl, by simp⟩
  | true =>
    refine Or.inr ⟨rfl, ?_⟩
    simp only [if_true]
    cases hd : s.alloc.deleteCC o.name o.spec with
    | mk al r =>
      cases r
      · exact Or.inr ⟨Or.inl rfl, _, rfl, rfl⟩
      · exact Or.inr ⟨Or.inr rfl, _, rfl, rfl⟩
      · exact Or.inl ⟨Or.inr rfl, rfl⟩
      · exact Or.inl ⟨Or.inl rfl, rfl⟩

/-- `syncClusterCIDR`: nothing to do (not in the cache, or settled); `reconcileDelete` on the cached object under
deletion; `createClusterCIDR` on the cached live object that lacks the finalizer -/
theorem procCCCore_cases (s : Sys) (name : String) (w : WOut) :
    ((getCC s.ccView name = none ∨ ∃ o, getCC s.ccView name = some o ∧ o.deleting = false ∧ needFin o = false) ∧
      procCCCore s name w = (s, { res := "ok" })) ∨
    ∃ o, getCC s.ccView name = some o ∧ o.name = name ∧
      ((o.deleting = true ∧ procCCCore s name w = reconcileDelete s o w) ∨
       (o.deleting = false ∧ needFin o = true ∧ procCCCore s name w = createClusterCIDR s o false w)) := by
  unfold procCCCore
  cases hv : getCC s.ccView name with
  | none => exact Or.inl ⟨Or.inl rfl, rfl⟩
  | some o =>
    cases hd : o.deleting with
    | true => exact Or.inr ⟨o, rfl, (mem_of_getCC hv).2, Or.inl ⟨hd, by simp [hd]⟩⟩
    | false =>
      cases hn : needFin o with
      | true => exact Or.inr ⟨o, rfl, (mem_of_getCC hv).2, Or.inr ⟨hd, hn, by simp [hd, hn]⟩⟩
      | false => exact Or.inl ⟨Or.inr ⟨o, rfl, hd, hn⟩, by simp [hd, hn]⟩

end Ipam
