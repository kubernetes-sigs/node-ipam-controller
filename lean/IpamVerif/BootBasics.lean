import IpamVerif.System
import IpamVerif.Facts
/-!
# Start-up basics (step facts of C03; the property theorems are in `Props/C03.lean`)

In the model a work item performs its API writes inside one `step`; everything else it does lives in `alloc`, the
caches and the queues.  `boot` (the constructor followed by the informers' initial listing) ignores all of these:
the new incarnation is a function of the API state alone.
-/
namespace Ipam.C03

/-- the incarnation that comes up after a restart depends only on the API state (and its own start-up
parameters): not on the reservations, caches or queues of the incarnation that crashed -/
theorem boot_memoryless (s : Sys) (al : Alloc) (nv : List NodeObj) (cv : List CCObj) (nq cq : List String) (sv : List Cidr)
    (svcs : List Cidr) (ws : List WOut) :
    boot { s with alloc := al, nodeView := nv, ccView := cv, nodeQ := nq, ccQ := cq, svcs := sv } svcs ws = boot s svcs ws := rfl

/-- two incarnations crashing over the same API state come up identically -/
theorem boot_depends_on_api_only (s t : Sys) (h : s.api = t.api) (svcs : List Cidr) (ws : List WOut) :
    boot s svcs ws = boot t svcs ws := by
  rw [← boot_memoryless s t.alloc t.nodeView t.ccView t.nodeQ t.ccQ t.svcs svcs ws, h]

/-- crash right after an API write whose answer never arrived = that step with outcome `lost`, then a
restart; crash right before = outcome `fail`, then a restart: both are ordinary histories -/
theorem crash_points_are_histories (s : Sys) (e : Ev) (svcs : List Cidr) (ws : List WOut) :
    run s [e, .boot svcs ws] = (boot (step s e).1 svcs ws).1 := rfl

/-- after the restart the caches equal the API state (and every cached object is queued: `boot_nodeQ`, `boot_ccQ`) -/
theorem boot_views (s : Sys) (svcs : List Cidr) (ws : List WOut) :
    (boot s svcs ws).1.nodeView = (boot s svcs ws).1.api.nodes ∧ (boot s svcs ws).1.ccView = (boot s svcs ws).1.api.ccs :=
  ⟨rfl, rfl⟩

/-- start-up order (C03): nodes are listed before the allocator is constructed, informers start afterwards;
inside the constructor ClusterCIDRs are mapped before the service ranges are occupied, before the listed
nodes are occupied, before the node handlers are registered -/
theorem startupOrder : Facts.startupOrder = ["Nodes.List", "NewMultiCIDRRangeAllocator", "Start", "Start", "Run"] ∧
    Facts.constructorOrder = ["listClusterCIDRs", "reconcileBootstrap", "AddEventHandler:clusterCIDRInformer",
      "filterOutServiceRange", "filterOutServiceRange", "occupyCIDRs", "AddEventHandler:nodeInformer"] := ⟨rfl, rfl⟩

end Ipam.C03
