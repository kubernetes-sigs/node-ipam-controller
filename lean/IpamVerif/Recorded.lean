import IpamVerif.AllocLemmas
/-!
# C01, the assignment step

A pod CIDR `h` of another node is *recorded* when every address of it lies in a used block of some pool of
its family (`Recorded`).  `allocateCIDR` hands out a block only if it overlaps no used block of any pool of
the family (`allocate_exact`, from the loop invariant `allocLoop_cursor`), hence never a block that meets a
recorded CIDR — whatever ClusterCIDR records it: overlapping ranges, nested ranges, different per-node
sizes, both families (`assigned_block_disjoint_from_recorded`).  The reservation is made before anything is
written to the node (`reservation_recorded`).  These two facts hold with no assumption on the history; the
history-level theorem built on them is in `Safety.lean` / `Props/C01.lean`.
-/
namespace Ipam.C01

/-- every address of `h` lies in a block in use in some pool of its family -/
def Recorded (a : Alloc) (h : Cidr) : Prop := ∀ x, h.Mem x → ∃ u ∈ a.usedCidrs h.fam, u.Mem x

/-- **the assignment step**: a block `allocateCIDR` hands out meets no recorded CIDR -/
theorem assigned_block_disjoint_from_recorded {a a' : Alloc} (ha : a.WF) {i : Nat} {f : Fam} {c : CC} {p : Pool}
    {blk : Cidr} (hget : a.get? i = some c) (hp : c.pool f = some p)
    (h : a.allocate i f = (a', some blk)) {hd : Cidr} (hfam : hd.fam = f) (hrec : Recorded a hd) :
    blk.Disjoint hd := by
  have hok := ha i c hget f p hp
  obtain ⟨hnb, hwf, hbf⟩ : a.blocked blk = false ∧ blk.WF ∧ blk.fam = f := by
    rcases allocate_exact hget hp hok with ⟨_, _, _, e⟩ | ⟨k, _, hk, _, hnb, _, e⟩ <;> cases h.symm.trans e
    exact ⟨hnb, goBlock_WF hok hk, hok.fam⟩
  -- CIDRs that meet share the greater of their two first addresses; being in `hd`, it lies in a used block
  refine Decidable.by_contra fun hnd => ?_
  obtain ⟨x, hxb, hxh⟩ : ∃ x, blk.Mem x ∧ hd.Mem x :=
    if hle : blk.addr ≤ hd.addr then ⟨hd.addr, ⟨hle, Nat.lt_of_not_le (mt .inl hnd)⟩, hd.mem_addr⟩
    else ⟨blk.addr, blk.mem_addr, Nat.le_of_not_le hle, Nat.lt_of_not_le (mt .inr hnd)⟩
  obtain ⟨u, hu, hxu⟩ := hrec x hxh
  exact Cidr.not_disjoint_of_mem hxb hxu (Alloc.disjoint_of_not_blocked ha hwf hnb ((hfam.trans hbf.symm) ▸ hu))

/-- a reservation is itself recorded: once `allocateCIDR` has returned a block, that block is used in the
serving pool — before anything is written to the node — so the next allocation cannot produce it again -/
theorem reservation_recorded {a a' : Alloc} (ha : a.WF) {i : Nat} {f : Fam} {c : CC} {p : Pool} {blk : Cidr}
    (hget : a.get? i = some c) (hp : c.pool f = some p) (h : a.allocate i f = (a', some blk)) :
    ∃ c' p', a'.get? i = some c' ∧ c'.pool f = some p' ∧ ∃ k, k ∈ p'.used ∧ blk = goBlock p'.geo k := by
  rcases allocate_exact hget hp (ha i c hget f p hp) with ⟨_, _, _, e⟩ | ⟨k, x, _, _, _, _, e⟩ <;> cases h.symm.trans e
  exact ⟨_, _, Alloc.get?_set_self _ _ _ _ hget, CC.pool_setPool_same _ _ _, k, List.mem_cons_self .., rfl⟩

example : Recorded ⟨[⟨"k", [], "a", some { Pool.new ⟨.v4, 0x0a000000, 24, 26⟩ "10.0.0.0/24" with used := [1], count := 1 }, none, [], false⟩]⟩
    ⟨.v4, 0x0a000040, 27⟩ :=
  fun _ hx => ⟨⟨.v4, 0x0a000040, 26⟩, by decide, Cidr.Sub.mem (by decide) hx⟩

end Ipam.C01
