import IpamVerif.AllocObs
/-! What the operations do to the order "the map only grew" (`AllocLe`, `AllocEqv`; `AllocLemmas`) and to what is in use
(`AllocObs`).  Occupying grows the state (`CC.occupy_le`, `filterService_le`); on a block of the entry itself it adds exactly
that block (`occupy_block`, the dual of `release_block`).  An allocation attempt is walked once (`AllocFam.attempt`,
`tryEntry_attempt`, `prioritized_attempt`): nothing but cursors moved, or exactly the returned CIDRs were reserved, in one
entry, blocks that overlapped nothing in use (`Grown`, `Grown.disjoint`); and whatever an attempt reserved can be given back, after which every
used set is what it was (`Grown.undo`). -/
namespace Ipam
open Safety (UsedAt usedAt_iff usedAt_le)
open Restart (IsBlock InUse)

theorem PoolLe_occupy {f : Fam} {p p' : Pool} (hp : PoolOK f p) {cd : Cidr} (hcd : cd.WF) (h : p.occupy cd = some p') :
    PoolLe p p' :=
  let ⟨_, hg, _, hl, hm⟩ := (C14.occupy_refines hp.supported hp.inv hcd).2 p' h
  ⟨hg, hl, fun k hk => (hm k).mpr (.inl hk)⟩

theorem CC.occupy_le {c c' : CC} (hc : c.WF) {cd : Cidr} (hcd : cd.WF) (h : c.occupy cd = some c') :
    c'.WF ∧ CCLe c c' := by
  refine ⟨CC.WF_occupy hc hcd h, ?_⟩
  obtain ⟨p, p', hp, ho, rfl⟩ := CC.occupy_eq_some.mp h
  exact (CCLe.refl c).setPool hp (PoolLe_occupy (hc _ p hp) hcd ho)

theorem CC.occupyList_le : ∀ (cidrs : List Cidr) (c : CC), c.WF → (∀ cd ∈ cidrs, cd.WF) →
    (c.occupyList cidrs).1.WF ∧ CCLe c (c.occupyList cidrs).1 := by
  intro cidrs
  induction cidrs with
  | nil => intro c hc _; exact ⟨hc, CCLe.refl c⟩
  | cons cd rest ih =>
    intro c hc hw
    unfold CC.occupyList
    cases ho : c.occupy cd with
    | none => exact ⟨hc, CCLe.refl c⟩
    | some c' =>
      obtain ⟨h1, h2⟩ := CC.occupy_le hc (hw cd (List.mem_cons_self ..)) ho
      obtain ⟨h3, h4⟩ := ih c' h1 fun x hx => hw x (List.mem_cons_of_mem _ hx)
      exact ⟨h3, CCLe.trans h2 h4⟩

theorem CC.occupyService_le {c : CC} (hc : c.WF) {svc : Cidr} (hsvc : svc.WF) :
    (c.occupyService svc).WF ∧ CCLe c (c.occupyService svc) := by
  rcases c.occupyService_cases svc with e | ⟨c', ho, e⟩ <;> rw [e]
  · exact ⟨hc, CCLe.refl c⟩
  · exact CC.occupy_le hc hsvc ho

theorem filterService_le {a : Alloc} (ha : a.WF) {svc : Cidr} (hsvc : svc.WF) : AllocLe a (a.filterService svc) :=
  ⟨List.length_map _, fun j c hc =>
    ⟨_, by rw [Alloc.get?_filterService, hc]; rfl, (CC.occupyService_le (ha j c hc) hsvc).2⟩⟩

theorem reserve_then_release_restores {f : Fam} {p p1 : Pool} (hp : PoolOK f p) {k : Nat} (hk : k < p.max)
    (hfree : k ∉ p.used) (h1 : p.occupy (goBlock p.geo k) = some p1) :
    ∃ p2, p1.release (goBlock p.geo k) = some p2 ∧ (∀ j, j ∈ p2.used ↔ j ∈ p.used) ∧ p2.count = p.count ∧ PoolOK f p2 := by
  cases (Pool.occupy_free hp.supported hk hfree).symm.trans h1
  have hp1 := hp.take hk hfree
  have hrel : (p.take k).release (goBlock p.geo k) = some ((p.take k).releaseIdx k).publish := C14.release_block hp1.supported hk
  have hidx : (p.take k).releaseIdx k = { p.take k with used := p.used, count := p.count, releases := p.releases + 1 } :=
    (if_pos (List.mem_cons_self ..)).trans (by rw [show (p.take k).used = k :: p.used from rfl, List.erase_cons_head]; rfl)
  rw [hidx] at hrel
  exact ⟨_, hrel, fun _ => Iff.rfl, rfl, PoolOK_release hp1 (goBlock_WF hp hk) hrel⟩

/-- the dual of `release_block` -/
theorem occupy_block {c : CC} (hc : c.WF) {cd : Cidr} (h : IsBlock c cd) :
    ∃ c', c.occupy cd = some c' ∧ c'.WF ∧ CCLe c c' ∧ ∀ cd', InUse c' cd' ↔ InUse c cd' ∨ cd' = cd := by
  obtain ⟨p, k, hp, hk, rfl⟩ := h
  have hok := hc _ p hp
  have hocc := CC.occupy_of_pool rfl hp (C14.occupy_block hok.supported hk)
  obtain ⟨hwf, hle⟩ := CC.occupy_le hc (goBlock_WF hok hk) hocc
  exact ⟨_, hocc, hwf, hle, inUse_setPool_add (q := (p.occupyIdx k).publish) hp hok.fam (p.occupyIdx_sameFrame k).1
    (p.occupyIdx_spec k hok.inv.toInv0 hk).2⟩

/-- Two states with the same static part (both below `m`): the order between them is read off the CIDRs in use.
In a well-formed map a block number is determined by its CIDR. -/
theorem AllocLe.of_usedAt {a b m : Alloc} (ha : a.WF) (hb : b.WF) (ham : AllocLe a m) (hbm : AllocLe b m)
    (hu : ∀ j cd, UsedAt a j cd → UsedAt b j cd) : AllocLe a b := by
  refine ⟨hbm.1.symm.trans ham.1, fun j c hc => ?_⟩
  obtain ⟨cm, hcm, h1⟩ := ham.2 j c hc
  obtain ⟨cb, hcb, h2⟩ := hbm.get_rev hcm
  refine ⟨cb, hcb, h2.1.symm.trans h1.1, h2.2.1.symm.trans h1.2.1, h2.2.2.1.symm.trans h1.2.2.1,
    h2.2.2.2.1.symm.trans h1.2.2.2.1, h2.2.2.2.2.1.symm.trans h1.2.2.2.2.1, fun g => ?_⟩
  have l1 := h1.pool g
  have l2 := h2.pool g
  cases hp : c.pool g with
  | none =>
    rw [hp] at l1
    cases hpm : cm.pool g with
    | some _ => rw [hpm] at l1; exact l1.elim
    | none =>
      rw [hpm] at l2
      cases hpb : cb.pool g with
      | some _ => rw [hpb] at l2; exact l2.elim
      | none => trivial
  | some p =>
    obtain ⟨pm, hpm, le1⟩ := h1.pool_fwd hp
    obtain ⟨pb, hpb, le2⟩ := h2.pool_bwd hpm
    rw [hpb]
    have hgeo : pb.geo = p.geo := le2.1.symm.trans le1.1
    have hok := ha j c hc g p hp
    have hokb := hb j cb hcb g pb hpb
    refine ⟨hgeo, le2.2.1.symm.trans le1.2.1, fun k hk => ?_⟩
    have hfam : (goBlock p.geo k).fam = g := hok.fam
    obtain ⟨cb', pb', k', hcb', hpb', hk', hbk⟩ := hu j _ ⟨c, p, k, hc, hfam ▸ hp, hk, rfl⟩
    rw [hcb] at hcb'; cases hcb'
    rw [hfam, hpb] at hpb'; cases hpb'
    rw [hgeo] at hbk
    rw [← goBlock_inj hok (hok.inv.bound k hk) (by have := hokb.inv.bound k' hk'; unfold Pool.max at this ⊢; rwa [hgeo] at this) hbk.symm] at hk'
    exact hk'

/-- `a'` is `a` after an attempt that reserved exactly the CIDRs `l`, in entry `i`: blocks of that entry that overlapped
nothing in use -/
structure Grown (a a' : Alloc) (i : Nat) (l : List Cidr) : Prop where
  le : AllocLe a a'
  wf : a'.WF
  used : ∀ cd ∈ l, UsedAt a' i cd
  fresh : ∀ cd ∈ l, a.At i (IsBlock · cd) ∧ a.blocked cd = false
  only : ∀ j cd, UsedAt a' j cd → UsedAt a j cd ∨ (j = i ∧ cd ∈ l)

theorem Grown.cidr_WF {a a' : Alloc} {i : Nat} {l : List Cidr} (ha : a.WF) (h : Grown a a' i l) {cd : Cidr} (hcd : cd ∈ l) :
    cd.WF := by
  obtain ⟨c, hc, p, k, hp, hk, rfl⟩ := (h.fresh cd hcd).1
  exact goBlock_WF (ha i c hc _ p hp) hk

theorem Safety.fresh_disjoint {a : Alloc} (ha : a.WF) {blk : Cidr} (hb : a.blocked blk = false) (hbw : blk.WF) {j : Nat} {cd : Cidr}
    (hu : UsedAt a j cd) (hf : cd.fam = blk.fam) : blk.Disjoint cd :=
  Alloc.disjoint_of_not_blocked ha hbw hb (hf ▸ (a.mem_usedCidrs_iff _ _).mpr ⟨j, hu⟩)

theorem Grown.disjoint {a a' : Alloc} {i : Nat} {l : List Cidr} (ha : a.WF) (h : Grown a a' i l) {cd : Cidr} (hcd : cd ∈ l)
    {j : Nat} {u : Cidr} (hu : UsedAt a j u) (hf : u.fam = cd.fam) : cd.Disjoint u :=
  Safety.fresh_disjoint ha (h.fresh cd hcd).2 (h.cidr_WF ha hcd) hu hf

theorem Grown.nil {a a' : Alloc} (h : AllocEqv a a') (hwf : a'.WF) (i : Nat) : Grown a a' i [] :=
  ⟨h.1, hwf, nofun, nofun, fun _ _ hu => .inl (usedAt_le h.2 hu)⟩

theorem not_blocked_of_le {a a' : Alloc} (h : AllocLe a a') {blk : Cidr} (hb : a'.blocked blk = false) : a.blocked blk = false :=
  Bool.eq_false_iff.mpr fun hx => Bool.false_ne_true (hb.symm.trans (blocked_mono h blk hx))

theorem Grown.trans {a a1 a2 : Alloc} {i : Nat} {l l' : List Cidr} (h1 : Grown a a1 i l) (h2 : Grown a1 a2 i l') :
    Grown a a2 i (l ++ l') := by
  refine ⟨h1.le.trans h2.le, h2.wf, fun cd hcd => ?_, fun cd hcd => ?_, fun j cd hu => ?_⟩
  · exact (List.mem_append.mp hcd).elim (fun h => usedAt_le h2.le (h1.used cd h)) (h2.used cd)
  · rcases List.mem_append.mp hcd with h | h
    · exact h1.fresh cd h
    · exact ⟨h1.le.at_bwd (fun _ _ hle hb => hb.of_geo hle.geoGe) (h2.fresh cd h).1, not_blocked_of_le h1.le (h2.fresh cd h).2⟩
  · rcases h2.only j cd hu with hu | ⟨hj, hcd⟩
    · exact (h1.only j cd hu).imp_right fun h => ⟨h.1, List.mem_append_left _ h.2⟩
    · exact .inr ⟨hj, List.mem_append_right _ hcd⟩

theorem not_usedAt_of_not_blocked {a : Alloc} (ha : a.WF) {i : Nat} {cd : Cidr} (hb : a.blocked cd = false) :
    ¬ UsedAt a i cd := by
  rintro ⟨c, p, k, hc, hp, hk, rfl⟩
  have hok := ha i c hc _ p hp
  exact Bool.false_ne_true (hb.symm.trans
    ((Unavail_iff_blocked hc hp hok (hok.inv.bound k hk)).mp (.inl hk)))

/-- **what an attempt reserved can be given back**, and every used set is then what it was before the attempt -/
theorem Grown.undo {a a' : Alloc} {i : Nat} {l : List Cidr} (ha : a.WF) (h : Grown a a' i l) :
    ∃ a'', a'.releaseAll i l = (a'', true) ∧ AllocEqv a a'' ∧ a''.WF := by
  obtain ⟨a'', hrel, hwf, hle, hex⟩ := Safety.releaseAll_exact i l a' h.wf fun cd hcd =>
    h.le.at_fwd (fun _ _ hle hb => hb.of_geo hle.geoLe) (h.fresh cd hcd).1
  refine ⟨a'', hrel, ⟨AllocLe.of_usedAt ha hwf h.le hle fun j cd hu => ?_, AllocLe.of_usedAt hwf ha hle h.le fun j cd hu => ?_⟩, hwf⟩
  · exact (hex j cd).mpr ⟨usedAt_le h.le hu, fun e => not_usedAt_of_not_blocked ha (h.fresh cd e.2).2 (e.1 ▸ hu)⟩
  · obtain ⟨hu', hn⟩ := (hex j cd).mp hu
    exact (h.only j cd hu').resolve_right hn

/-- what an attempt did: nothing but cursors moved (refused), or exactly `l` was reserved in entry `i` -/
def Attempt (a a' : Alloc) (i : Nat) : Option (List Cidr) → Prop
  | none => AllocEqv a a' ∧ a'.WF
  | some l => Grown a a' i l

/-- `c` is the entry now at position `i`, `o` the pool it had when the loop body began -/
theorem AllocFam.attempt {a a' : Alloc} (ha : a.WF) {i : Nat} {f : Fam} {c : CC} (hget : a.get? i = some c)
    {o : Option Pool} (hle : OptPoolLe o (c.pool f)) {r : Option (List Cidr)} (h : AllocFam a i f o a' r) :
    Attempt a a' i r := by
  have hc := ha i c hget
  cases h with
  | absent => exact Grown.nil (AllocEqv.refl a) ha i
  | failed hal =>
    obtain ⟨p, ho, _⟩ := hle.some_left
    rcases allocate_exact hget ho (hc f _ ho) with ⟨x, hx, _, e⟩ | ⟨_, _, _, _, _, _, e⟩ <;> cases hal.symm.trans e
    exact ⟨AllocEqv.setCursor hget ho x, Alloc.WF_set ha (CC.WF_setPool hc (PoolOK_cursor (hc f _ ho) hx))⟩
  | served hal =>
    obtain ⟨p, ho, _⟩ := hle.some_left
    have hok := hc f p ho
    rcases allocate_exact hget ho hok with ⟨_, _, _, e⟩ | ⟨k, x, hk, hfree, hnb, hx, e⟩ <;> cases hal.symm.trans e
    have hu (cd : Cidr) : InUse (c.setPool f (({ p with cursor := x } : Pool).take k)) cd ↔ _ :=
      inUse_setPool_add (q := ({ p with cursor := x } : Pool).take k) ho hok.fam rfl (fun _ => List.mem_cons) cd
    refine ⟨AllocLe.setPool hget ho ⟨rfl, rfl, fun _ => List.mem_cons_of_mem _⟩,
      Alloc.WF_set ha (CC.WF_setPool hc ((PoolOK_cursor hok hx).take hk hfree)), fun cd hcd => ?_, fun cd hcd => ?_,
      fun j cd hu' => ?_⟩
    · cases List.mem_singleton.mp hcd
      exact usedAt_iff.mpr ((Alloc.at_set_self hget _ _).mpr ((hu _).mpr (.inr rfl)))
    · cases List.mem_singleton.mp hcd
      exact ⟨⟨c, hget, p, k, (show (goBlock p.geo k).fam = f from hok.fam) ▸ ho, hk, rfl⟩, hnb⟩
    · by_cases hj : j = i
      · subst hj
        exact ((hu cd).mp ((Alloc.at_set_self hget _ _).mp (usedAt_iff.mp hu'))).imp
          (fun h => usedAt_iff.mpr ⟨c, hget, h⟩) fun e => ⟨rfl, List.mem_singleton.mpr e⟩
      · exact .inl (usedAt_iff.mpr ((Alloc.at_set_ne hj _ _).mp (usedAt_iff.mp hu')))

/-- **the loop body of `prioritizedCIDRs`**: the entry is skipped and nothing but cursors (and counters) moved — an
IPv4 block reserved before the IPv6 pool turned out to be exhausted has been given back —, or it served exactly `cidrs` -/
theorem tryEntry_attempt {a a' : Alloc} (ha : a.WF) {i : Nat} {r : Option (List Cidr)} (h : a.tryEntry i = (a', r)) :
    Attempt a a' i r := by
  cases hget : a.get? i with
  | none => cases (Alloc.tryEntry_of_get_none hget).symm.trans h; exact ⟨AllocEqv.refl a, ha⟩
  | some c =>
    have ht := Alloc.tryEntry_cases hget
    rw [h] at ht
    -- the IPv6 step runs in the state the IPv4 step left, on the entry with the IPv6 pool it had
    have second {a1 a2 : Alloc} {l4 : List Cidr} {r6 : Option (List Cidr)} (g4 : Grown a a1 i l4)
        (h6 : AllocFam a1 i .v6 c.v6 a2 r6) : Attempt a1 a2 i r6 :=
      let ⟨_, hget1, hle⟩ := g4.le.2 i c hget
      h6.attempt g4.wf hget1 (hle.pool .v6)
    cases ht with
    | skip4 h4 => exact h4.attempt ha hget (OptPoolLe.refl _)
    | served h4 h6 =>
      have g4 : Grown a _ i _ := h4.attempt ha hget (OptPoolLe.refl _)
      exact g4.trans (second g4 h6)
    | skip6 h4 h6 =>
      have g4 : Grown a _ i _ := h4.attempt ha hget (OptPoolLe.refl _)
      have e6 : AllocEqv _ _ ∧ _ := second g4 h6
      obtain ⟨a'', hrel, heqv, hwf⟩ := (List.append_nil _ ▸ g4.trans (Grown.nil e6.1 e6.2 i)).undo ha
      rw [hrel]; exact ⟨heqv, hwf⟩

/-- **`prioritizedCIDRs`**: nobody served and nothing but cursors moved, or entry `i` of the list served exactly `cidrs` -/
theorem prioritized_attempt {a : Alloc} (ha : a.WF) (l : List Nat) {a' : Alloc} {r : Option (List Cidr × Nat)}
    (h : a.prioritized l = (a', r)) :
    match r with
    | none => AllocEqv a a' ∧ a'.WF
    | some (cidrs, i) => i ∈ l ∧ Grown a a' i cidrs := by
  have := Alloc.prioritized_induct (P := fun _ s => AllocEqv a s ∧ s.WF) l ⟨AllocEqv.refl a, ha⟩
    fun _ s i s' hs ht => have e : AllocEqv s s' ∧ _ := tryEntry_attempt hs.2 ht; ⟨hs.1.trans e.1, e.2⟩
  rw [h] at this
  cases r with
  | none => exact this
  | some ci =>
    obtain ⟨pre, post, s, hl, hs, ht⟩ := this
    exact ⟨hl ▸ List.mem_append_right _ (List.mem_cons_self ..), (Grown.nil hs.1 hs.2 _).trans (tryEntry_attempt hs.2 ht)⟩

/-- what is handed out: every CIDR is in use in the serving entry afterwards, and overlapped nothing in use before -/
theorem Safety.prioritized_served {a : Alloc} (ha : a.WF) : ∀ (l : List Nat) {a' : Alloc} {cidrs : List Cidr} {i : Nat},
    a.prioritized l = (a', some (cidrs, i)) →
    i ∈ l ∧ ∀ cd ∈ cidrs, UsedAt a' i cd ∧ cd.WF ∧ a.blocked cd = false := by
  intro l a' cidrs i h
  obtain ⟨hil, g⟩ := prioritized_attempt ha l h
  exact ⟨hil, fun cd hcd => ⟨g.used cd hcd, g.cidr_WF ha hcd, (g.fresh cd hcd).2⟩⟩

end Ipam
