import IpamVerif.StepLemmas
/-!
# C08 over whole histories: pod CIDRs, once a node has them, are never changed

`Keeps a a'`: every node the API state `a` shows with pod CIDRs is still there in `a'` with the same pod CIDRs (and the
same `junk` flag).  **No assumption on the history**: every event of the model except the deletion of that very node —
a restart, node and ClusterCIDR work items under every write outcome (failed, lost, retried PATCHes; a cache that is
stale or catches up mid-item), label edits, foreign writers, notifications — keeps it (`step_keeps`, stated for one
node; read off `step_nodes`), hence every history does (`run_keeps`).  The controller side of this is
`patch_only_when_cache_shows_no_cidrs` (it *tries* to write only when its cache shows none); that a stale cache cannot
turn the attempt into a change is the API server's rule `Api.patchNode`, which the harness ties to the fake API server
used by the implementation run.
-/
namespace Ipam.C08

/-- same pod CIDRs as before, for every node that had some -/
def Keeps (a a' : Api) : Prop :=
  ∀ name y, getNode a.nodes name = some y → y.hasCidrs = true →
    ∃ y', getNode a'.nodes name = some y' ∧ y'.cidrs = y.cidrs ∧ y'.junk = y.junk

theorem Keeps.refl (a : Api) : Keeps a a := fun _ y h _ => ⟨y, h, rfl, rfl⟩

theorem Keeps.of_nodes {a a' : Api} (h : a'.nodes = a.nodes) : Keeps a a' :=
  fun _ y hy _ => ⟨y, h ▸ hy, rfl, rfl⟩

theorem hasCidrs_congr {y y' : NodeObj} (hc : y'.cidrs = y.cidrs) (hj : y'.junk = y.junk) : y'.hasCidrs = y.hasCidrs := by
  unfold NodeObj.hasCidrs; rw [hc, hj]

theorem Keeps.trans {a b c : Api} (h1 : Keeps a b) (h2 : Keeps b c) : Keeps a c := by
  intro name y hy hc
  obtain ⟨y1, hy1, hc1, hj1⟩ := h1 name y hy hc
  obtain ⟨y2, hy2, hc2, hj2⟩ := h2 name y1 hy1 (by rw [hasCidrs_congr hc1 hj1]; exact hc)
  exact ⟨y2, hy2, hc2.trans hc1, hj2.trans hj1⟩

theorem nodesStep_keeps {e : Ev} {l l' : List NodeObj} (h : NodesStep e l l') {name : String} {y : NodeObj}
    (hy : getNode l name = some y) (hc : y.hasCidrs = true) (hne : e ≠ .nodeDel name) :
    ∃ y', getNode l' name = some y' ∧ y'.cidrs = y.cidrs ∧ y'.junk = y.junk := by
  rcases h.get name with h | ⟨_, _, _, hnone, _⟩ | ⟨he, _⟩ | ⟨y0, y', h0, h', hev⟩
  · exact ⟨y, h ▸ hy, rfl, rfl⟩
  · rw [hy] at hnone; cases hnone
  · exact absurd he hne
  · rw [hy] at h0; cases h0
    exact ⟨y', h', hev.2.2 hc, hev.2.1⟩

/-- the API server's rule: a PATCH of `spec.podCIDRs` changes no node that has pod CIDRs -/
theorem patchNode_keeps (a : Api) (name : String) (cidrs : List Cidr) : Keeps a (a.patchNode name cidrs).1 :=
  -- `NodesStep` of a PATCH holds under every event; one that deletes no node is picked
  fun _ _ hy hc => nodesStep_keeps (NodesStep.patchNode (.ccDel "") a name cidrs) hy hc nofun

theorem procCC_keeps (s : Sys) (name : String) (w : WOut) : Keeps s.api (procCC s name w).1.api := by
  rw [procCC_eq]
  exact Keeps.of_nodes (procCCCore_item { s with ccQ := qDel s.ccQ name } name w).nodes_graves.1

theorem boot_nodes (s : Sys) (svcs : List Cidr) (ws : List WOut) : (boot s svcs ws).1.api.nodes = s.api.nodes :=
  Ipam.boot_nodes s svcs ws

/-- **one event**: unless it deletes that very node, no event of the model changes the pod CIDRs of a node that has some -/
theorem step_keeps (s : Sys) (e : Ev) (name : String) (y : NodeObj) (hy : getNode s.api.nodes name = some y)
    (hc : y.hasCidrs = true) (hne : e ≠ .nodeDel name) :
    ∃ y', getNode (step s e).1.api.nodes name = some y' ∧ y'.cidrs = y.cidrs ∧ y'.junk = y.junk :=
  nodesStep_keeps (step_nodes s e) hy hc hne

/-- **every history**: from the moment the API shows a node with pod CIDRs until that node is deleted, every state
shows it with exactly those pod CIDRs — whatever else happens (restarts at any instant, lost and failed writes, stale
caches, other writers, ClusterCIDR churn) -/
theorem run_keeps (evs : List Ev) : ∀ (s : Sys) (name : String) (y : NodeObj), getNode s.api.nodes name = some y →
    y.hasCidrs = true → (∀ e ∈ evs, e ≠ .nodeDel name) →
    ∃ y', getNode (run s evs).api.nodes name = some y' ∧ y'.cidrs = y.cidrs ∧ y'.junk = y.junk :=
  fun s name y hy hc hne =>
    run_induction (P := fun s => ∃ y', getNode s.api.nodes name = some y' ∧ y'.cidrs = y.cidrs ∧ y'.junk = y.junk)
      (F := fun _ e => e ≠ .nodeDel name) (FA := fun _ evs => ∀ e ∈ evs, e ≠ .nodeDel name)
      (fun h => ⟨h _ (List.mem_cons_self ..), fun e he => h e (List.mem_cons_of_mem _ he)⟩)
      (fun e ⟨y1, hy1, hc1, hj1⟩ he =>
        let ⟨y2, hy2, hc2, hj2⟩ := step_keeps _ e name y1 hy1 (by rw [hasCidrs_congr hc1 hj1]; exact hc) he
        ⟨y2, hy2, hc2.trans hc1, hj2.trans hj1⟩)
      evs s ⟨y, hy, rfl, rfl⟩ hne

end Ipam.C08
