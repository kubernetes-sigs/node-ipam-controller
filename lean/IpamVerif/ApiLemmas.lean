import IpamVerif.MapLemmas
/-!
# The API server rules, characterised once

`Api.patchNode` changes the API in exactly one situation (the node exists and has no pod CIDRs), and is idempotent;
hence the PATCH retry loop ends with the API either untouched or patched once, whatever the write outcomes
(`patchLoop_eq`).  `Api.updateCC` either refuses or rewrites the one object with a higher resource version
(`updateCC_cases`).  Every file that needs a fact about these functions derives it from here.
-/
namespace Ipam

theorem hasCidrs_false_iff {n : NodeObj} : n.hasCidrs = false ↔ n.junk = false ∧ n.cidrs = [] := by
  simp [NodeObj.hasCidrs]

theorem hasCidrs_of_cidrs {n : NodeObj} {cidrs : List Cidr} (hne : cidrs ≠ []) (h : n.cidrs = cidrs) : n.hasCidrs = true := by
  cases hc : n.hasCidrs with
  | true => rfl
  | false => exact absurd (h ▸ (hasCidrs_false_iff.mp hc).2) hne

/-! ### PATCH of `spec.podCIDRs` -/

theorem patchNode_cases (a : Api) (name : String) (cidrs : List Cidr) :
    (a.patchNode name cidrs).1 = a ∨
    ∃ n, getNode a.nodes name = some n ∧ n.hasCidrs = false ∧
      a.patchNode name cidrs = ({ a with nodes := putNode a.nodes { n with cidrs := cidrs } }, true) := by
  unfold Api.patchNode
  cases hg : getNode a.nodes name with
  | none => exact Or.inl rfl
  | some n =>
    cases hc : n.hasCidrs with
    | false => exact Or.inr ⟨n, rfl, hc, by simp [hc]⟩
    | true => left; simp only [hc, Bool.not_true, Bool.false_eq_true, if_false]; split <;> rfl

theorem patchNode_refused {a : Api} {name : String} {cidrs : List Cidr} (h : (a.patchNode name cidrs).2 = false) :
    (a.patchNode name cidrs).1 = a := by
  rcases patchNode_cases a name cidrs with h1 | ⟨_, _, _, h1⟩
  · exact h1
  · rw [h1] at h; cases h

theorem patchNode_accepted {a : Api} {name : String} {cidrs : List Cidr} (h : (a.patchNode name cidrs).2 = true) :
    ∃ y, getNode (a.patchNode name cidrs).1.nodes name = some y ∧ y.junk = false ∧ y.cidrs = cidrs := by
  unfold Api.patchNode at h ⊢
  cases hg : getNode a.nodes name with
  | none => rw [hg] at h; cases h
  | some n =>
    rw [hg] at h
    cases hc : n.hasCidrs with
    | false =>
      refine ⟨{ n with cidrs := cidrs }, ?_, (hasCidrs_false_iff.mp hc).1, rfl⟩
      simp only [hc, Bool.not_false, if_true]
      exact (mem_of_getNode hg).2 ▸ getNode_putNode_self a.nodes { n with cidrs := cidrs }
    | true =>
      simp only [hc, Bool.not_true, Bool.false_eq_true, if_false] at h ⊢
      split at h
      · rename_i hs
        rw [if_pos hs]
        simp only [Bool.and_eq_true, Bool.not_eq_true', decide_eq_true_eq] at hs
        exact ⟨n, hg, hs⟩
      · cases h

theorem patchNode_idem (a : Api) (name : String) (cidrs : List Cidr) :
    (a.patchNode name cidrs).1.patchNode name cidrs = a.patchNode name cidrs := by
  rcases patchNode_cases a name cidrs with h1 | ⟨n, hg, hc, h1⟩
  · rw [h1]
  · have hn : n.name = name := (mem_of_getNode hg).2
    have hj := (hasCidrs_false_iff.mp hc).1
    have hself : getNode (putNode a.nodes { n with cidrs := cidrs }) name = some { n with cidrs := cidrs } :=
      hn ▸ getNode_putNode_self a.nodes { n with cidrs := cidrs }
    rw [h1]
    unfold Api.patchNode
    simp only [hself]
    cases hc' : (NodeObj.hasCidrs { n with cidrs := cidrs }) with
    | false =>
      -- `cidrs = []`: the same object is written over itself
      simp only [Bool.not_false, if_true]
      exact congrArg (fun l => (({ a with nodes := l } : Api), true)) (Named.put_put_self (nm := NodeObj.name) a.nodes _)
    | true => simp [hj]

/-- the outcomes the retry loop consumes: `k` of them, `ok` once the list has run out -/
def attempts : Nat → List WOut → List WOut
  | 0, _ => []
  | k + 1, ws => ws.headD .ok :: attempts k ws.tail

/-- The loop in closed form.  By `patchNode_idem` every attempt that reaches the server has the effect and the answer of
the first, so only two things about the outcomes matter: whether every attempt failed outright, and whether one came
back `ok`. -/
theorem patchLoop_eq (name : String) (cidrs : List Cidr) : ∀ (k : Nat) (a : Api) (ws : List WOut)
    (acc : List (String × List Cidr × String)),
    (patchLoop a name cidrs k ws acc).1 = (if ∀ w ∈ attempts k ws, w = .fail then a else (a.patchNode name cidrs).1) ∧
    ((patchLoop a name cidrs k ws acc).2.1 = true ↔ (a.patchNode name cidrs).2 = true ∧ .ok ∈ attempts k ws) := by
  intro k
  induction k with
  | zero => intro a ws acc; simp [patchLoop, attempts]
  | succ k ih =>
    intro a ws acc
    unfold patchLoop attempts
    simp only [List.mem_cons]
    cases ws.headD .ok with
    | fail => simpa [attemptPatch] using ih a ws.tail _
    | ok =>
      cases hp : (a.patchNode name cidrs).2 with
      | true => simp [attemptPatch, hp]
      | false =>
        have := ih a ws.tail (acc ++ [(name, cidrs, "rejected")])
        simpa [attemptPatch, hp, patchNode_refused hp] using this
    | lost =>
      have := ih (a.patchNode name cidrs).1 ws.tail (acc ++ [(name, cidrs, if (a.patchNode name cidrs).2 then "lost" else "rejected")])
      rw [patchNode_idem] at this
      simp only [attemptPatch, Bool.false_eq_true, if_false, this, reduceCtorEq, false_or]
      split <;> simp

theorem patchLoop_api (a : Api) (name : String) (cidrs : List Cidr) (k : Nat) (ws : List WOut)
    (acc : List (String × List Cidr × String)) :
    (patchLoop a name cidrs k ws acc).1 = a ∨ (patchLoop a name cidrs k ws acc).1 = (a.patchNode name cidrs).1 := by
  rw [(patchLoop_eq name cidrs k a ws acc).1]; split <;> simp

theorem patchLoop_ok {a : Api} {name : String} {cidrs : List Cidr} {k : Nat} {ws : List WOut}
    {acc : List (String × List Cidr × String)} (h : (patchLoop a name cidrs k ws acc).2.1 = true) :
    (a.patchNode name cidrs).2 = true ∧ (patchLoop a name cidrs k ws acc).1 = (a.patchNode name cidrs).1 := by
  obtain ⟨h1, h2⟩ := patchLoop_eq name cidrs k a ws acc
  obtain ⟨hp, hw⟩ := h2.mp h
  exact ⟨hp, by rw [h1, if_neg fun hall => nomatch hall _ hw]⟩

theorem mem_attempts {w : WOut} : ∀ {k : Nat} {ws : List WOut}, w ∈ attempts k ws → w ∈ ws.take k ∨ w = .ok
  | 0, _, h => by cases h
  | k + 1, [], h => by
    rcases List.mem_cons.mp h with h | h
    · exact Or.inr h
    · exact (mem_attempts h).imp_left (by simp)
  | k + 1, w0 :: ws, h => by
    rcases List.mem_cons.mp h with h | h
    · exact Or.inl (by simp [h])
    · exact (mem_attempts (ws := ws) h).imp_left (by simp only [List.take_succ_cons, List.mem_cons]; exact Or.inr)

theorem patchLoop_failed {a : Api} {name : String} {cidrs : List Cidr} {k : Nat} {ws : List WOut}
    {acc : List (String × List Cidr × String)} (hws : ∀ w ∈ ws.take k, w ≠ WOut.lost)
    (h : (patchLoop a name cidrs k ws acc).2.1 = false) : (patchLoop a name cidrs k ws acc).1 = a := by
  obtain ⟨h1, h2⟩ := patchLoop_eq name cidrs k a ws acc
  rw [h1]
  split
  · rfl
  · rename_i hall
    cases hp : (a.patchNode name cidrs).2 with
    | false => exact patchNode_refused hp
    | true =>
      -- no attempt is `ok` (the loop failed), none is `lost`: all failed
      exfalso; apply hall
      intro w hw
      have hnok : w ≠ .ok := fun e => by rw [h2.mpr ⟨hp, e ▸ hw⟩] at h; cases h
      rcases mem_attempts hw with hm | hm
      · cases w with
        | fail => rfl
        | ok => exact absurd rfl hnok
        | lost => exact absurd rfl (hws _ hm)
      · exact absurd hm hnok

theorem patchLoop_patches (name : String) (cidrs : List Cidr) : ∀ (k : Nat) (a : Api) (ws : List WOut)
    (acc : List (String × List Cidr × String)),
    ∀ p ∈ (patchLoop a name cidrs k ws acc).2.2, p ∈ acc ∨ (p.1 = name ∧ p.2.1 = cidrs) := by
  intro k
  induction k with
  | zero => intro a ws acc p hp; exact Or.inl hp
  | succ k ih =>
    intro a ws acc p hp
    have hacc : ∀ lbl, p ∈ acc ++ [(name, cidrs, lbl)] → p ∈ acc ∨ (p.1 = name ∧ p.2.1 = cidrs) := by
      intro lbl h
      rcases List.mem_append.mp h with h | h
      · exact Or.inl h
      · rw [List.mem_singleton.mp h]; exact Or.inr ⟨rfl, rfl⟩
    unfold patchLoop at hp
    simp only at hp
    split at hp
    · exact hacc _ hp
    · exact (ih _ _ _ p hp).elim (hacc _) Or.inr

/-! ### Update of a ClusterCIDR -/

theorem updateCC_cases (a : Api) (name : String) (rv : Nat) (fins : List String) :
    a.updateCC name rv fins = (a, false) ∨
    ∃ o, getCC a.ccs name = some o ∧ o.rv = rv ∧
      ((o.deleting = true ∧ fins = [] ∧ a.updateCC name rv fins = ({ a with ccs := delCC a.ccs name }, true)) ∨
       (¬ (o.deleting = true ∧ fins = []) ∧
        a.updateCC name rv fins = ({ a with ccs := putCC a.ccs { o with finalizers := fins, rv := o.rv + 1 } }, true))) := by
  -- the function is unfolded and split in one place (`hr`), not in each of the four places the statement names it
  generalize hr : a.updateCC name rv fins = r
  unfold Api.updateCC at hr
  cases hg : getCC a.ccs name with
  | none => rw [hg] at hr; exact Or.inl hr.symm
  | some o =>
    rw [hg] at hr
    simp only at hr
    by_cases hrv : o.rv = rv
    · refine Or.inr ⟨o, rfl, hrv, ?_⟩
      rw [if_neg (not_not_intro hrv)] at hr
      by_cases hdel : (o.deleting && fins.isEmpty) = true
      · rw [if_pos hdel] at hr
        simp only [Bool.and_eq_true, List.isEmpty_iff] at hdel
        exact Or.inl ⟨hdel.1, hdel.2, hr.symm⟩
      · rw [if_neg hdel] at hr
        simp only [Bool.and_eq_true, List.isEmpty_iff] at hdel
        exact Or.inr ⟨hdel, hr.symm⟩
    · rw [if_pos hrv] at hr; exact Or.inl hr.symm

theorem attemptUpdate_cases (a : Api) (name : String) (rv : Nat) (fins : List String) (w : WOut) :
    ((attemptUpdate a name rv fins w).1 = a ∧ (attemptUpdate a name rv fins w).2.1 = false) ∨
    ((attemptUpdate a name rv fins w).1 = (a.updateCC name rv fins).1 ∧ (a.updateCC name rv fins).2 = true) := by
  unfold attemptUpdate
  cases w with
  | fail => exact Or.inl ⟨rfl, rfl⟩
  | ok | lost =>
    rcases updateCC_cases a name rv fins with h | ⟨_, _, _, ⟨_, _, h⟩ | ⟨_, h⟩⟩
    · exact Or.inl (by simp [h])
    · exact Or.inr (by simp [h])
    · exact Or.inr (by simp [h])

theorem attemptUpdate_api (a : Api) (name : String) (rv : Nat) (fins : List String) (w : WOut) :
    (attemptUpdate a name rv fins w).1 = a ∨
    (∃ o, getCC a.ccs name = some o ∧ o.deleting = true ∧ fins = [] ∧
      (attemptUpdate a name rv fins w).1 = { a with ccs := delCC a.ccs name }) ∨
    (∃ o, getCC a.ccs name = some o ∧ ¬ (o.deleting = true ∧ fins = []) ∧
      (attemptUpdate a name rv fins w).1 = { a with ccs := putCC a.ccs { o with finalizers := fins, rv := o.rv + 1 } }) := by
  rcases attemptUpdate_cases a name rv fins w with ⟨h, _⟩ | ⟨h, _⟩
  · exact .inl h
  · rcases updateCC_cases a name rv fins with h1 | ⟨o, hg, _, ⟨hd, hf, h1⟩ | ⟨hn, h1⟩⟩ <;> rw [h1] at h
    · exact .inl h
    · exact .inr (.inl ⟨o, hg, hd, hf, h⟩)
    · exact .inr (.inr ⟨o, hg, hn, h⟩)

theorem attemptUpdate_rest (a : Api) (name : String) (rv : Nat) (fins : List String) (w : WOut) :
    (attemptUpdate a name rv fins w).1 = { a with ccs := (attemptUpdate a name rv fins w).1.ccs } := by
  rcases attemptUpdate_api a name rv fins w with h | ⟨_, _, _, _, h⟩ | ⟨_, _, _, h⟩ <;> rw [h]

theorem attemptUpdate_nodes_graves (a : Api) (name : String) (rv : Nat) (fins : List String) (w : WOut) :
    (attemptUpdate a name rv fins w).1.nodes = a.nodes ∧ (attemptUpdate a name rv fins w).1.graves = a.graves := by
  rw [attemptUpdate_rest]; exact ⟨rfl, rfl⟩

end Ipam
