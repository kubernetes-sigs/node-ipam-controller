import IpamVerif.Pool
import IpamVerif.AddrLemmas
/-! Lemmas for L1, used by `Props/C14.lean` and `Props/C19.lean`: the invariant of a pool (`Pool.Inv0`, `Pool.Inv`), what the
loops of `Occupy` / `Release` and the cyclic scan of `NextCandidate` do to it. -/
namespace Ipam

/-- the part of the invariant that holds inside the loops too -/
structure Pool.Inv0 (p : Pool) : Prop where
  nodup : p.used.Nodup
  bound : ∀ i ∈ p.used, i < p.max
  count_eq : p.count = p.used.length
  cursor_lt : p.cursor < p.max
  metrics : p.allocs = p.releases + p.count
  maxg : p.maxGauge = p.max

/-- the invariant between operations -/
structure Pool.Inv (p : Pool) : Prop extends p.Inv0 where
  usage_eq : p.usage = p.count

theorem Pool.new_inv (g : Geo) (l : String) : (Pool.new g l).Inv :=
  { toInv0 := { nodup := List.nodup_nil, bound := (by intro i hi; cases hi), count_eq := rfl,
                cursor_lt := g.max_pos, metrics := rfl, maxg := rfl },
    usage_eq := rfl }

/-- `Occupy` and `Release` end by publishing the counter -/
def Pool.publish (p : Pool) : Pool := { p with usage := p.count }

theorem Pool.Inv0.publish {p : Pool} (h : p.Inv0) : p.publish.Inv :=
  { toInv0 := { h with }, usage_eq := rfl }

theorem Pool.Inv.setCursor {p : Pool} (h : p.Inv) {x : Nat} (hx : x < p.max) : ({ p with cursor := x } : Pool).Inv :=
  { h with cursor_lt := hx }

theorem idxRange_self (k : Nat) : idxRange k k = [k] := by
  unfold idxRange; rw [Nat.add_sub_cancel_left]; rfl

theorem mem_idxRange {b e k : Nat} : k ∈ idxRange b e ↔ b ≤ k ∧ k ≤ e := by
  unfold idxRange; rw [List.mem_range'_1]; omega

/-- fields the loops never touch -/
def Pool.SameFrame (p q : Pool) : Prop :=
  q.geo = p.geo ∧ q.label = p.label ∧ q.cursor = p.cursor

theorem Pool.SameFrame.refl (p : Pool) : p.SameFrame p := ⟨rfl, rfl, rfl⟩
theorem Pool.SameFrame.trans {p q r : Pool} (h1 : p.SameFrame q) (h2 : q.SameFrame r) : p.SameFrame r :=
  ⟨h2.1.trans h1.1, h2.2.1.trans h1.2.1, h2.2.2.trans h1.2.2⟩

theorem Pool.SameFrame.foldl {f : Pool → Nat → Pool} (hf : ∀ (p : Pool) (i : Nat), p.SameFrame (f p i)) (l : List Nat) (p : Pool) :
    p.SameFrame (l.foldl f p) := by
  induction l generalizing p with
  | nil => exact .refl p
  | cons i l ih => exact (hf p i).trans (ih _)

theorem Pool.occupyIdx_sameFrame (p : Pool) (i : Nat) : p.SameFrame (p.occupyIdx i) := by
  unfold Pool.occupyIdx; split <;> exact ⟨rfl, rfl, rfl⟩

theorem Pool.releaseIdx_sameFrame (p : Pool) (i : Nat) : p.SameFrame (p.releaseIdx i) := by
  unfold Pool.releaseIdx; split <;> exact ⟨rfl, rfl, rfl⟩

theorem Pool.occupyIdx_spec (p : Pool) (i : Nat) (h : p.Inv0) (hi : i < p.max) :
    (p.occupyIdx i).Inv0 ∧ ∀ k, k ∈ (p.occupyIdx i).used ↔ k = i ∨ k ∈ p.used := by
  unfold Pool.occupyIdx
  by_cases hm : i ∈ p.used
  · rw [if_pos hm]
    exact ⟨h, fun k => ⟨Or.inr, fun hk => hk.elim (· ▸ hm) id⟩⟩
  · rw [if_neg hm]
    refine ⟨?_, fun k => List.mem_cons⟩
    exact { nodup := List.nodup_cons.mpr ⟨hm, h.nodup⟩
            bound := fun j hj => (List.mem_cons.mp hj).elim (· ▸ hi) (h.bound j)
            count_eq := congrArg (· + 1) h.count_eq
            cursor_lt := h.cursor_lt
            metrics := (congrArg (· + 1) h.metrics).trans (Nat.add_assoc ..)
            maxg := h.maxg }

theorem Pool.occupyFold_spec (l : List Nat) (p : Pool) (h : p.Inv0) (hl : ∀ i ∈ l, i < p.max) :
    (l.foldl Pool.occupyIdx p).Inv0 ∧ ∀ k, k ∈ (l.foldl Pool.occupyIdx p).used ↔ k ∈ l ∨ k ∈ p.used := by
  induction l generalizing p with
  | nil => exact ⟨h, fun k => ⟨Or.inr, fun hk => hk.resolve_left List.not_mem_nil⟩⟩
  | cons a t ih =>
    obtain ⟨h1, m1⟩ := p.occupyIdx_spec a h (hl a (List.mem_cons_self ..))
    have hmax : (p.occupyIdx a).max = p.max := congrArg Geo.max (p.occupyIdx_sameFrame a).1
    obtain ⟨h2, m2⟩ := ih (p.occupyIdx a) h1 fun i hi => hmax ▸ hl i (List.mem_cons_of_mem _ hi)
    refine ⟨h2, fun k => ?_⟩
    rw [List.foldl_cons, m2 k, m1 k, List.mem_cons, or_assoc, or_left_comm]

theorem Pool.releaseIdx_spec (p : Pool) (i : Nat) (h : p.Inv0) :
    (p.releaseIdx i).Inv0 ∧ ∀ k, k ∈ (p.releaseIdx i).used ↔ k ≠ i ∧ k ∈ p.used := by
  unfold Pool.releaseIdx
  by_cases hm : i ∈ p.used
  · rw [if_pos hm]
    refine ⟨?_, fun k => h.nodup.mem_erase_iff⟩
    have hpos : 0 < p.count := h.count_eq ▸ List.length_pos_of_mem hm
    exact { nodup := h.nodup.erase i
            bound := fun j hj => h.bound j (List.mem_of_mem_erase hj)
            count_eq := (congrArg (· - 1) h.count_eq).trans (List.length_erase_of_mem hm).symm
            cursor_lt := h.cursor_lt
            metrics := by
              show p.allocs = p.releases + 1 + (p.count - 1)
              rw [Nat.add_assoc, Nat.add_sub_cancel' hpos]; exact h.metrics
            maxg := h.maxg }
  · rw [if_neg hm]
    exact ⟨h, fun k => ⟨fun hk => ⟨fun he => hm (he ▸ hk), hk⟩, And.right⟩⟩

theorem Pool.releaseFold_spec (l : List Nat) (p : Pool) (h : p.Inv0) :
    (l.foldl Pool.releaseIdx p).Inv0 ∧ ∀ k, k ∈ (l.foldl Pool.releaseIdx p).used ↔ k ∉ l ∧ k ∈ p.used := by
  induction l generalizing p with
  | nil => exact ⟨h, fun k => ⟨fun hk => ⟨List.not_mem_nil, hk⟩, And.right⟩⟩
  | cons a t ih =>
    obtain ⟨h1, m1⟩ := p.releaseIdx_spec a h
    obtain ⟨h2, m2⟩ := ih (p.releaseIdx a) h1
    refine ⟨h2, fun k => ?_⟩
    rw [List.foldl_cons, m2 k, m1 k, List.mem_cons, not_or, and_left_comm, and_assoc]

theorem Pool.occupyFold_id (l : List Nat) (p : Pool) (hl : ∀ i ∈ l, i ∈ p.used) :
    l.foldl Pool.occupyIdx p = p := by
  induction l with
  | nil => rfl
  | cons a t ih =>
    have : p.occupyIdx a = p := if_pos (hl a (List.mem_cons_self ..))
    rw [List.foldl_cons, this]; exact ih (fun i hi => hl i (List.mem_cons_of_mem _ hi))

theorem Pool.releaseFold_id (l : List Nat) (p : Pool) (hl : ∀ i ∈ l, i ∉ p.used) :
    l.foldl Pool.releaseIdx p = p := by
  induction l with
  | nil => rfl
  | cons a t ih =>
    have : p.releaseIdx a = p := if_neg (hl a (List.mem_cons_self ..))
    rw [List.foldl_cons, this]; exact ih (fun i hi => hl i (List.mem_cons_of_mem _ hi))

/-! ### `Occupy` and `Release` as a whole -/

theorem Pool.occupy_eq (p : Pool) (cd : Cidr) :
    p.occupy cd = (goBeginEnd p.geo cd).map fun be => ((idxRange be.1 be.2).foldl Pool.occupyIdx p).publish := by
  unfold Pool.occupy; cases goBeginEnd p.geo cd <;> rfl

theorem Pool.release_eq (p : Pool) (cd : Cidr) :
    p.release cd = (goBeginEnd p.geo cd).map fun be => ((idxRange be.1 be.2).foldl Pool.releaseIdx p).publish := by
  unfold Pool.release; cases goBeginEnd p.geo cd <;> rfl

theorem Pool.publish_eq {p : Pool} (h : p.usage = p.count) : p.publish = p := by
  cases p; cases h; rfl

theorem Pool.occupy_geo_label {p p' : Pool} {cd : Cidr} (h : p.occupy cd = some p') :
    p'.geo = p.geo ∧ p'.label = p.label := by
  rw [Pool.occupy_eq] at h
  obtain ⟨be, _, rfl⟩ := Option.map_eq_some_iff.mp h
  have fr := Pool.SameFrame.foldl Pool.occupyIdx_sameFrame (idxRange be.1 be.2) p
  exact ⟨fr.1, fr.2.1⟩

theorem Pool.release_geo_label {p p' : Pool} {cd : Cidr} (h : p.release cd = some p') :
    p'.geo = p.geo ∧ p'.label = p.label := by
  rw [Pool.release_eq] at h
  obtain ⟨be, _, rfl⟩ := Option.map_eq_some_iff.mp h
  have fr := Pool.SameFrame.foldl Pool.releaseIdx_sameFrame (idxRange be.1 be.2) p
  exact ⟨fr.1, fr.2.1⟩

theorem Pool.next_geo_label {p p' : Pool} {k i : Nat} (h : p.next = some (k, i, p')) :
    p'.geo = p.geo ∧ p'.label = p.label := by
  unfold Pool.next at h
  split at h
  · cases h
  · split at h
    · cases h
    · cases h; exact ⟨rfl, rfl⟩

/-! ### the cyclic scan of `NextCandidate` -/

theorem Pool.scan_spec (p : Pool) (hm : 0 < p.max) (fuel : Nat) : ∀ cand i, cand < p.max →
    match p.scan fuel cand i with
    | some (c, k) => ∃ d, d < fuel ∧ k = i + d ∧ c = (cand + d) % p.max ∧ c ∉ p.used ∧
        ∀ j, j < d → (cand + j) % p.max ∈ p.used
    | none => ∀ j, j < fuel → (cand + j) % p.max ∈ p.used := by
  induction fuel with
  | zero => intro cand i _; exact fun j hj => absurd hj (Nat.not_lt_zero j)
  | succ f ih =>
    intro cand i hc
    unfold Pool.scan
    by_cases hu : cand ∈ p.used
    · rw [if_pos hu]
      -- one step on: offsets from `cand + 1` are offsets from `cand`, shifted
      have shift {d : Nat} (h : ∀ j, j < d → ((cand + 1) % p.max + j) % p.max ∈ p.used) :
          ∀ j, j < d + 1 → (cand + j) % p.max ∈ p.used
        | 0, _ => (Nat.mod_eq_of_lt hc).symm ▸ hu
        | j + 1, hj => by
          have := h j (Nat.lt_of_succ_lt_succ hj)
          rwa [Nat.mod_add_mod, Nat.add_assoc, Nat.add_comm 1] at this
      have := ih ((cand + 1) % p.max) (i + 1) (Nat.mod_lt _ hm)
      cases hs : p.scan f ((cand + 1) % p.max) (i + 1) with
      | none => rw [hs] at this; exact shift this
      | some ck =>
        rw [hs] at this
        obtain ⟨d, hd, hk, hcd, hfree, hused⟩ := this
        refine ⟨d + 1, Nat.succ_lt_succ hd, by rw [hk, Nat.add_assoc, Nat.add_comm 1], ?_, hfree, shift hused⟩
        rw [hcd, Nat.mod_add_mod, Nat.add_assoc, Nat.add_comm 1]
    · rw [if_neg hu]
      exact ⟨0, Nat.zero_lt_succ f, rfl, (Nat.mod_eq_of_lt hc).symm, hu, fun j hj => absurd hj (Nat.not_lt_zero j)⟩

theorem cyclic_cover {m s i : Nat} (hs : s < m) (hi : i < m) : ∃ j, j < m ∧ (s + j) % m = i :=
  ⟨(i + m - s) % m, Nat.mod_lt _ (Nat.zero_lt_of_lt hi), by
    rw [Nat.add_mod_mod, Nat.add_sub_cancel' (Nat.le_trans (Nat.le_of_lt hs) (Nat.le_add_left m i)),
      Nat.add_mod_right, Nat.mod_eq_of_lt hi]⟩

theorem length_le_of_nodup_of_lt {l : List Nat} {m : Nat} (hn : l.Nodup) (hb : ∀ i ∈ l, i < m) : l.length ≤ m :=
  Nat.le_trans (hn.length_le_of_subset fun i hi => List.mem_range.mpr (hb i hi)) (Nat.le_of_eq List.length_range)

theorem full_iff {l : List Nat} {m : Nat} (hn : l.Nodup) (hb : ∀ i ∈ l, i < m) :
    l.length = m ↔ ∀ i, i < m → i ∈ l := by
  constructor
  · intro hlen i hi
    -- otherwise `i :: l` would be `m + 1` distinct numbers below `m`
    refine Decidable.by_contra fun hni => Nat.not_succ_le_self m ?_
    have := length_le_of_nodup_of_lt (List.nodup_cons.mpr ⟨hni, hn⟩)
      fun j hj => (List.mem_cons.mp hj).elim (· ▸ hi) (hb j)
    rwa [List.length_cons, hlen] at this
  · intro hall
    exact Nat.le_antisymm (length_le_of_nodup_of_lt hn hb) (Nat.le_trans (Nat.le_of_eq List.length_range.symm)
      (List.nodup_range.length_le_of_subset fun i hi => hall i (List.mem_range.mp hi)))

end Ipam
