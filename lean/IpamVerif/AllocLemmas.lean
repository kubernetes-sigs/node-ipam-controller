import IpamVerif.Alloc
import IpamVerif.Props.C14
/-! Lemmas for L2: reading and replacing entries of the map; what `CC.occupy` / `release`, `buildPool`, `buildCC`, `createCC`,
`delFirst` return (`*_eq_some`, `delFirst_spec`); well-formedness (`PoolOK`, `CC.WF`, `Alloc.WF`); the overlap check; the preorder
"the map only grew" (`AllocLe`, `AllocEqv`); the loop of `allocateCIDR` (`allocLoop_cursor`, `allocLoop_spec`); the loop body of
`prioritizedCIDRs` case by case (`AllocFam`, `TryEntry`, `Alloc.tryEntry_cases`) and its walk (`Alloc.prioritized_induct`). -/
namespace Ipam

@[simp] theorem CC.pool_setPool_same (c : CC) (f : Fam) (p : Pool) : (c.setPool f p).pool f = some p := by
  cases f <;> rfl

theorem CC.pool_setPool_other (c : CC) (f g : Fam) (p : Pool) (h : g ≠ f) : (c.setPool f p).pool g = c.pool g := by
  cases f <;> cases g <;> first | rfl | exact absurd rfl h

theorem CC.addAssoc_pool (c : CC) (n : String) (g : Fam) : (c.addAssoc n).pool g = c.pool g := by
  unfold CC.addAssoc; split <;> rfl

@[simp] theorem CC.setPool_key (c : CC) (f : Fam) (p : Pool) : (c.setPool f p).key = c.key := by cases f <;> rfl
@[simp] theorem CC.setPool_reqs (c : CC) (f : Fam) (p : Pool) : (c.setPool f p).reqs = c.reqs := by cases f <;> rfl
@[simp] theorem CC.setPool_name (c : CC) (f : Fam) (p : Pool) : (c.setPool f p).name = c.name := by cases f <;> rfl
@[simp] theorem CC.setPool_assoc (c : CC) (f : Fam) (p : Pool) : (c.setPool f p).assoc = c.assoc := by cases f <;> rfl
@[simp] theorem CC.setPool_term (c : CC) (f : Fam) (p : Pool) : (c.setPool f p).term = c.term := by cases f <;> rfl

theorem Alloc.get?_set (a : Alloc) (i j : Nat) (c : CC) :
    (a.set i c).get? j = if i = j then (if i < a.ccs.length then some c else none) else a.get? j := by
  unfold Alloc.set Alloc.get?
  rw [List.getElem?_set]

theorem Alloc.lt_of_get?_some (a : Alloc) (j : Nat) (c : CC) (h : a.get? j = some c) : j < a.ccs.length :=
  (List.getElem?_eq_some_iff.mp h).1

theorem Alloc.get?_some_of_lt (a : Alloc) (j : Nat) (h : j < a.ccs.length) : ∃ c, a.get? j = some c :=
  ⟨a.ccs[j], List.getElem?_eq_getElem h⟩

theorem Alloc.get?_set_self (a : Alloc) (i : Nat) (c d : CC) (h : a.get? i = some d) : (a.set i c).get? i = some c := by
  rw [Alloc.get?_set, if_pos rfl, if_pos (a.lt_of_get?_some i d h)]

theorem Alloc.get?_set_ne (a : Alloc) (i j : Nat) (c : CC) (h : i ≠ j) : (a.set i c).get? j = a.get? j := by
  rw [Alloc.get?_set, if_neg h]

@[simp] theorem Alloc.set_length (a : Alloc) (i : Nat) (c : CC) : (a.set i c).ccs.length = a.ccs.length :=
  List.length_set ..

theorem Alloc.get?_filterService (a : Alloc) (svc : Cidr) (i : Nat) :
    (a.filterService svc).get? i = (a.get? i).map (·.occupyService svc) := by
  unfold Alloc.filterService Alloc.get?; exact List.getElem?_map

theorem Alloc.get?_eraseIdx (a : Alloc) (i k : Nat) :
    (Alloc.mk (a.ccs.eraseIdx i)).get? k = a.get? (if k < i then k else k + 1) := by
  unfold Alloc.get?; simp only; rw [List.getElem?_eraseIdx]; split <;> rfl

theorem Alloc.get?_append_left {a : Alloc} {j : Nat} {d : CC} (c : CC) (h : a.get? j = some d) :
    (Alloc.mk (a.ccs ++ [c])).get? j = some d := by
  unfold Alloc.get? at h ⊢
  rw [List.getElem?_append_left (List.getElem?_eq_some_iff.mp h).1]; exact h

theorem Alloc.get?_append {a : Alloc} {c d : CC} {j : Nat} (h : (Alloc.mk (a.ccs ++ [c])).get? j = some d) :
    a.get? j = some d ∨ d = c := by
  unfold Alloc.get? at h ⊢
  simp only at h
  by_cases hlt : j < a.ccs.length
  · exact Or.inl (List.getElem?_append_left hlt ▸ h)
  · rw [List.getElem?_append_right (Nat.le_of_not_lt hlt)] at h
    exact Or.inr ((List.getElem_singleton _).symm.trans (List.getElem?_eq_some_iff.mp h).2).symm

theorem Alloc.set_none {a : Alloc} {i : Nat} (c : CC) (h : a.get? i = none) : a.set i c = a := by
  unfold Alloc.set
  rw [List.set_eq_of_length_le (List.getElem?_eq_none_iff.mp h)]

theorem CC.occupy_eq_some {c c' : CC} {cd : Cidr} :
    c.occupy cd = some c' ↔ ∃ p p', c.pool cd.fam = some p ∧ p.occupy cd = some p' ∧ c' = c.setPool cd.fam p' := by
  unfold CC.occupy
  constructor
  · intro h
    split at h
    · cases h
    · rename_i p hp
      split at h
      · cases h
      · rename_i p' ho
        cases h; exact ⟨p, p', hp, ho, rfl⟩
  · rintro ⟨p, p', hp, ho, rfl⟩
    simp only [hp, ho]

theorem CC.release_eq_some {c c' : CC} {cd : Cidr} :
    c.release cd = some c' ↔ ∃ p p', c.pool cd.fam = some p ∧ p.release cd = some p' ∧ c' = c.setPool cd.fam p' := by
  unfold CC.release
  constructor
  · intro h
    split at h
    · cases h
    · rename_i p hp
      split at h
      · cases h
      · rename_i p' ho
        cases h; exact ⟨p, p', hp, ho, rfl⟩
  · rintro ⟨p, p', hp, ho, rfl⟩
    simp only [hp, ho]

theorem CC.occupyService_cases (c : CC) (svc : Cidr) :
    c.occupyService svc = c ∨ ∃ c', c.occupy svc = some c' ∧ c.occupyService svc = c' := by
  unfold CC.occupyService
  split
  · exact .inl rfl
  · split
    · split
      · exact .inl rfl
      · exact .inr ⟨_, ‹_›, rfl⟩
    · exact .inl rfl

theorem CC.occupy_of_pool {d : CC} {f : Fam} {q q2 : Pool} {blk : Cidr} (hf : blk.fam = f) (hq : d.pool f = some q)
    (hr : q.occupy blk = some q2) : d.occupy blk = some (d.setPool f q2) :=
  hf ▸ CC.occupy_eq_some.mpr ⟨q, q2, hf ▸ hq, hr, rfl⟩

theorem CC.release_of_pool {d : CC} {f : Fam} {q q2 : Pool} {blk : Cidr} (hf : blk.fam = f) (hq : d.pool f = some q)
    (hr : q.release blk = some q2) : d.release blk = some (d.setPool f q2) :=
  hf ▸ CC.release_eq_some.mpr ⟨q, q2, hf ▸ hq, hr, rfl⟩

theorem buildPool_eq_some {fld : RangeField} {want : Fam} {hb : Int} {p : Pool} (h : buildPool fld want hb = some (some p)) :
    ∃ c label g, fld = .ok c label ∧ c.fam = want ∧ newGeo c hb = some g ∧ p = Pool.new g label := by
  unfold buildPool at h
  split at h
  · cases h
  · cases h
  · rename_i c label
    split at h
    · cases h
    · rename_i hf
      cases hg : newGeo c hb with
      | none => rw [hg] at h; cases h
      | some g => rw [hg] at h; cases h; exact ⟨c, label, g, rfl, Decidable.not_not.mp hf, hg, rfl⟩

theorem buildCC_eq_some {key : String} {reqs : List Req} {name : String} {spec : CCSpec} {t : Bool} {c : CC}
    (h : buildCC key reqs name spec t = some c) :
    ∃ p4 p6, buildPool spec.ipv4 .v4 spec.hostBits = some p4 ∧ buildPool spec.ipv6 .v6 spec.hostBits = some p6 ∧
      (p4.isNone && p6.isNone) = false ∧ c = ⟨key, reqs, name, p4, p6, [], t⟩ := by
  unfold buildCC at h
  split at h
  · cases h
  · rename_i p4 h4
    split at h
    · cases h
    · rename_i p6 h6
      split at h
      · cases h
      · rename_i hn
        cases h; exact ⟨p4, p6, h4, h6, Bool.eq_false_iff.mpr hn, rfl⟩

theorem buildCC_term (key : String) (reqs : List Req) (name : String) (spec : CCSpec) (t t' : Bool) :
    buildCC key reqs name spec t = (buildCC key reqs name spec t').map ({ · with term := t }) := by
  unfold buildCC
  split
  · rfl
  · split
    · rfl
    · split <;> rfl

theorem Alloc.mapped_iff {a : Alloc} {key name : String} :
    a.mapped key name = true ↔ ∃ d ∈ a.ccs, d.key = key ∧ d.name = name := by
  simp only [Alloc.mapped, List.any_eq_true, Bool.and_eq_true, beq_iff_eq]

theorem Alloc.createCC_eq_some {a al : Alloc} {name : String} {spec : CCSpec} {t : Bool}
    (h : a.createCC name spec t = some al) :
    ∃ reqs, selectorOf spec.sel = some reqs ∧
      (a.mapped (printSel reqs) name = true ∧ al = a ∨
       a.mapped (printSel reqs) name = false ∧
         ∃ c, buildCC (printSel reqs) reqs name spec t = some c ∧ al = ⟨a.ccs ++ [c]⟩) := by
  unfold Alloc.createCC at h
  split at h
  · cases h
  · rename_i reqs hsel
    refine ⟨reqs, hsel, ?_⟩
    simp only at h
    split at h
    · rename_i hm; cases h; exact .inl ⟨hm, rfl⟩
    · rename_i hm
      split at h
      · cases h
      · rename_i c hb; cases h; exact .inr ⟨Bool.eq_false_iff.mpr hm, c, hb, rfl⟩

theorem delFirst_hit {key name : String} {c : CC} (t : List CC) (h : c.key = key ∧ c.name = name) :
    delFirst key name (c :: t) = if c.assoc.length > 0 then ({ c with term := true } :: t, .hasNodes) else (t, .removed) := by
  simp [delFirst, h.1, h.2]

theorem delFirst_miss {key name : String} {c : CC} (t : List CC) (h : ¬ (c.key = key ∧ c.name = name)) :
    delFirst key name (c :: t) = (c :: (delFirst key name t).1, (delFirst key name t).2) := by
  have : (c.key == key && c.name == name) = false := Bool.eq_false_iff.mpr fun hb => h (by simpa using hb)
  simp [delFirst, this]

/-- what `deleteClusterCIDR` does to the list of entries: it looks for the first entry filed under the pair; marks it
when nodes depend on it, removes it otherwise -/
theorem delFirst_spec (key name : String) (l : List CC) :
    (delFirst key name l = (l, .notFound) ∧ ∀ d ∈ l, ¬ (d.key = key ∧ d.name = name)) ∨
    ∃ pre c post, l = pre ++ c :: post ∧ c.key = key ∧ c.name = name ∧ (∀ d ∈ pre, ¬ (d.key = key ∧ d.name = name)) ∧
      ((c.assoc.length > 0 ∧ delFirst key name l = (pre ++ { c with term := true } :: post, .hasNodes)) ∨
       (c.assoc = [] ∧ delFirst key name l = (pre ++ post, .removed))) := by
  induction l with
  | nil => exact .inl ⟨rfl, fun _ hd => (List.not_mem_nil hd).elim⟩
  | cons c t ih =>
    by_cases hm : c.key = key ∧ c.name = name
    · refine .inr ⟨[], c, t, rfl, hm.1, hm.2, fun _ hd => (List.not_mem_nil hd).elim, ?_⟩
      rw [delFirst_hit t hm]
      by_cases ha : c.assoc.length > 0
      · exact .inl ⟨ha, if_pos ha⟩
      · exact .inr ⟨List.eq_nil_of_length_eq_zero (Nat.eq_zero_of_not_pos ha), if_neg ha⟩
    · rw [delFirst_miss t hm]
      rcases ih with ⟨h1, h2⟩ | ⟨pre, d, post, h1, h2, h3, h4, h5⟩
      · exact .inl ⟨by rw [h1], fun d hd => (List.mem_cons.mp hd).elim (· ▸ hm) (h2 d)⟩
      · refine .inr ⟨c :: pre, d, post, by rw [h1]; rfl, h2, h3, fun e he => (List.mem_cons.mp he).elim (· ▸ hm) (h4 e), ?_⟩
        rcases h5 with ⟨h5, h6⟩ | ⟨h5, h6⟩
        · exact .inl ⟨h5, by rw [h6]; rfl⟩
        · exact .inr ⟨h5, by rw [h6]; rfl⟩

/-- a pool sitting in slot `f` of an entry -/
def PoolOK (f : Fam) (p : Pool) : Prop := p.Inv ∧ C13.Supported p.geo ∧ p.geo.fam = f

theorem PoolOK.inv {f : Fam} {p : Pool} (h : PoolOK f p) : p.Inv := h.1
theorem PoolOK.supported {f : Fam} {p : Pool} (h : PoolOK f p) : C13.Supported p.geo := h.2.1
theorem PoolOK.fam {f : Fam} {p : Pool} (h : PoolOK f p) : p.geo.fam = f := h.2.2

def CC.WF (c : CC) : Prop := ∀ f p, c.pool f = some p → PoolOK f p

def Alloc.WF (a : Alloc) : Prop := ∀ i c, a.get? i = some c → c.WF

theorem CC.WF_setPool {c : CC} (hc : c.WF) {f : Fam} {p : Pool} (hp : PoolOK f p) : (c.setPool f p).WF := by
  intro g q hq
  by_cases hg : g = f
  · subst hg; rw [CC.pool_setPool_same] at hq; cases hq; exact hp
  · rw [CC.pool_setPool_other _ _ _ _ hg] at hq; exact hc g q hq

theorem CC.addAssoc_WF {c : CC} (hc : c.WF) (n : String) : (c.addAssoc n).WF :=
  fun g p hp => hc g p (c.addAssoc_pool n g ▸ hp)

theorem Alloc.WF_set {a : Alloc} (ha : a.WF) {i : Nat} {c : CC} (hc : c.WF) : (a.set i c).WF := by
  intro j d hd
  rw [Alloc.get?_set] at hd
  split at hd
  · split at hd
    · cases hd; exact hc
    · cases hd
  · exact ha j d hd

theorem Alloc.WF_append {a : Alloc} (ha : a.WF) {c : CC} (hc : c.WF) : (Alloc.mk (a.ccs ++ [c])).WF :=
  fun j d hd => (Alloc.get?_append hd).elim (ha j d) (· ▸ hc)

theorem PoolOK_occupy {f : Fam} {p p' : Pool} (hp : PoolOK f p) {cd : Cidr} (hcd : cd.WF) (h : p.occupy cd = some p') :
    PoolOK f p' := by
  obtain ⟨hI, hS, hf⟩ := hp
  obtain ⟨hI', hg, _⟩ := (C14.occupy_refines hS hI hcd).2 p' h
  exact ⟨hI', hg ▸ hS, hg ▸ hf⟩

theorem PoolOK_release {f : Fam} {p p' : Pool} (hp : PoolOK f p) {cd : Cidr} (hcd : cd.WF) (h : p.release cd = some p') :
    PoolOK f p' := by
  obtain ⟨hI, hS, hf⟩ := hp
  obtain ⟨hI', hg, _⟩ := (C14.release_refines hS hI hcd).2 p' h
  exact ⟨hI', hg ▸ hS, hg ▸ hf⟩

theorem PoolOK_cursor {f : Fam} {p : Pool} (hp : PoolOK f p) {x : Nat} (hx : x < p.max) : PoolOK f { p with cursor := x } :=
  ⟨hp.inv.setCursor hx, hp.2⟩

theorem CC.WF_occupy {c c' : CC} (hc : c.WF) {cd : Cidr} (hcd : cd.WF) (h : c.occupy cd = some c') : c'.WF := by
  obtain ⟨p, p', hp, hp', rfl⟩ := CC.occupy_eq_some.mp h
  exact CC.WF_setPool hc (PoolOK_occupy (hc _ _ hp) hcd hp')

theorem CC.WF_release {c c' : CC} (hc : c.WF) {cd : Cidr} (hcd : cd.WF) (h : c.release cd = some c') : c'.WF := by
  obtain ⟨p, p', hp, hp', rfl⟩ := CC.release_eq_some.mp h
  exact CC.WF_setPool hc (PoolOK_release (hc _ _ hp) hcd hp')

theorem goBlock_WF {f : Fam} {p : Pool} (hp : PoolOK f p) {k : Nat} (hk : k < p.max) : (goBlock p.geo k).WF :=
  (C13.block_is_ith_subrange hp.supported hk).2.1

/-! ### the part of the state a candidate is checked against -/

/-- used blocks of one family, as CIDRs, over the whole map -/
def Alloc.usedCidrs (a : Alloc) (f : Fam) : List Cidr :=
  (a.pools f).flatMap (fun q => q.used.map (fun j => goBlock q.geo j))

theorem Alloc.blocked_iff (a : Alloc) (blk : Cidr) :
    a.blocked blk = true ↔ ∃ u ∈ a.usedCidrs blk.fam, goOverlap blk u = true := by
  unfold Alloc.blocked Alloc.usedCidrs
  simp only [List.any_eq_true, List.mem_flatMap, List.mem_map]
  constructor
  · rintro ⟨q, hq, j, hj, ho⟩
    exact ⟨_, ⟨q, hq, j, hj, rfl⟩, ho⟩
  · rintro ⟨u, ⟨q, hq, j, hj, rfl⟩, ho⟩
    exact ⟨q, hq, j, hj, ho⟩

theorem Alloc.mem_pools_iff (a : Alloc) (g : Fam) (q : Pool) :
    q ∈ a.pools g ↔ ∃ j d, a.get? j = some d ∧ d.pool g = some q := by
  unfold Alloc.pools Alloc.get?
  simp only [List.mem_filterMap]
  constructor
  · rintro ⟨d, hd, hq⟩
    obtain ⟨j, hj⟩ := List.mem_iff_getElem?.mp hd
    exact ⟨j, d, hj, hq⟩
  · rintro ⟨j, d, hj, hq⟩
    exact ⟨d, List.mem_of_getElem? hj, hq⟩

theorem Alloc.mem_usedCidrs_iff (a : Alloc) (f : Fam) (u : Cidr) :
    u ∈ a.usedCidrs f ↔ ∃ j d q k, a.get? j = some d ∧ d.pool f = some q ∧ k ∈ q.used ∧ goBlock q.geo k = u := by
  unfold Alloc.usedCidrs
  simp only [List.mem_flatMap, List.mem_map, Alloc.mem_pools_iff]
  constructor
  · rintro ⟨q, ⟨j, d, hj, hd⟩, k, hk, rfl⟩
    exact ⟨j, d, q, k, hj, hd, hk, rfl⟩
  · rintro ⟨j, d, q, k, hj, hd, hk, rfl⟩
    exact ⟨q, ⟨j, d, hj, hd⟩, k, hk, rfl⟩

theorem Alloc.usedCidrs_WF {a : Alloc} (ha : a.WF) {f : Fam} {u : Cidr} (hu : u ∈ a.usedCidrs f) : u.WF ∧ u.fam = f := by
  obtain ⟨j, d, q, k, hj, hd, hk, rfl⟩ := (a.mem_usedCidrs_iff f u).mp hu
  have hok := ha j d hj f q hd
  exact ⟨goBlock_WF hok (hok.inv.bound k hk), hok.fam⟩

/-- in a well-formed map, a candidate the overlap check lets through meets no used block of its family: for
well-formed CIDRs of one family Go's test is interval intersection (`goOverlap_iff`) -/
theorem Alloc.disjoint_of_not_blocked {a : Alloc} (ha : a.WF) {blk : Cidr} (hbw : blk.WF) (hb : a.blocked blk = false)
    {u : Cidr} (hu : u ∈ a.usedCidrs blk.fam) : blk.Disjoint u :=
  Decidable.by_contra fun hnd =>
    have huw := Alloc.usedCidrs_WF ha hu
    Bool.false_ne_true (hb.symm.trans ((a.blocked_iff blk).mpr ⟨u, hu, (goOverlap_iff hbw huw.1 huw.2.symm).mpr hnd⟩))

/-! ### "the map only grew"

A preorder on allocator states that keeps everything static (keys, requirements, names, associations, terminating
flags, pool geometries and labels) and lets used sets grow (`AllocLe`); its symmetric part `AllocEqv` = "the same blocks are
in use" (cursors, counters, the order of the used lists may differ).  The overlap check sees a state only up to `AllocEqv`. -/

def PoolLe (p p' : Pool) : Prop := p'.geo = p.geo ∧ p'.label = p.label ∧ ∀ k, k ∈ p.used → k ∈ p'.used

def OptPoolLe : Option Pool → Option Pool → Prop
  | none, none => True
  | some p, some p' => PoolLe p p'
  | _, _ => False

def CCLe (c c' : CC) : Prop :=
  c'.key = c.key ∧ c'.reqs = c.reqs ∧ c'.name = c.name ∧ c'.assoc = c.assoc ∧ c'.term = c.term ∧
  ∀ g, OptPoolLe (c.pool g) (c'.pool g)

def AllocLe (a a' : Alloc) : Prop :=
  a'.ccs.length = a.ccs.length ∧ ∀ j c, a.get? j = some c → ∃ c', a'.get? j = some c' ∧ CCLe c c'

def AllocEqv (a a' : Alloc) : Prop := AllocLe a a' ∧ AllocLe a' a

theorem PoolLe.refl (p : Pool) : PoolLe p p := ⟨rfl, rfl, fun _ h => h⟩
theorem PoolLe.trans {p q r : Pool} (h1 : PoolLe p q) (h2 : PoolLe q r) : PoolLe p r :=
  ⟨h2.1.trans h1.1, h2.2.1.trans h1.2.1, fun k hk => h2.2.2 k (h1.2.2 k hk)⟩

theorem OptPoolLe.refl (o : Option Pool) : OptPoolLe o o := by
  cases o with
  | none => trivial
  | some p => exact PoolLe.refl p

theorem OptPoolLe.some_left {p : Pool} {o : Option Pool} (h : OptPoolLe (some p) o) : ∃ p', o = some p' ∧ PoolLe p p' := by
  cases o with
  | none => exact h.elim
  | some q => exact ⟨q, rfl, h⟩

theorem OptPoolLe.some_right {o : Option Pool} {p' : Pool} (h : OptPoolLe o (some p')) : ∃ p, o = some p ∧ PoolLe p p' := by
  cases o with
  | none => exact h.elim
  | some q => exact ⟨q, rfl, h⟩

theorem OptPoolLe.trans {o1 o2 o3 : Option Pool} (h1 : OptPoolLe o1 o2) (h2 : OptPoolLe o2 o3) : OptPoolLe o1 o3 := by
  cases o1 with
  | none =>
    cases o2 with
    | none => exact h2
    | some _ => exact h1.elim
  | some p =>
    obtain ⟨q, rfl, hpq⟩ := h1.some_left
    obtain ⟨r, rfl, hqr⟩ := h2.some_left
    exact PoolLe.trans hpq hqr

theorem CCLe.pool {c c' : CC} (h : CCLe c c') (g : Fam) : OptPoolLe (c.pool g) (c'.pool g) := h.2.2.2.2.2 g

theorem CCLe.pool_fwd {c c' : CC} (h : CCLe c c') {f : Fam} {p : Pool} (hp : c.pool f = some p) :
    ∃ p', c'.pool f = some p' ∧ PoolLe p p' := (hp ▸ h.pool f).some_left

theorem CCLe.pool_bwd {c c' : CC} (h : CCLe c c') {f : Fam} {p' : Pool} (hp : c'.pool f = some p') :
    ∃ p, c.pool f = some p ∧ PoolLe p p' := (hp ▸ h.pool f).some_right

theorem CCLe.refl (c : CC) : CCLe c c := ⟨rfl, rfl, rfl, rfl, rfl, fun _ => OptPoolLe.refl _⟩
theorem CCLe.trans {c d e : CC} (h1 : CCLe c d) (h2 : CCLe d e) : CCLe c e :=
  ⟨h2.1.trans h1.1, h2.2.1.trans h1.2.1, h2.2.2.1.trans h1.2.2.1, h2.2.2.2.1.trans h1.2.2.2.1,
   h2.2.2.2.2.1.trans h1.2.2.2.2.1, fun g => OptPoolLe.trans (h1.pool g) (h2.pool g)⟩

theorem AllocLe.refl (a : Alloc) : AllocLe a a := ⟨rfl, fun _ c h => ⟨c, h, CCLe.refl c⟩⟩
theorem AllocLe.trans {a b c : Alloc} (h1 : AllocLe a b) (h2 : AllocLe b c) : AllocLe a c := by
  refine ⟨h2.1.trans h1.1, ?_⟩
  intro j x hx
  obtain ⟨y, hy, hxy⟩ := h1.2 j x hx
  obtain ⟨z, hz, hyz⟩ := h2.2 j y hy
  exact ⟨z, hz, CCLe.trans hxy hyz⟩

theorem AllocLe.get_rev {a a' : Alloc} (h : AllocLe a a') {i : Nat} {c' : CC} (hg : a'.get? i = some c') :
    ∃ c, a.get? i = some c ∧ CCLe c c' := by
  obtain ⟨c, hc⟩ := a.get?_some_of_lt i (h.1 ▸ a'.lt_of_get?_some i c' hg)
  obtain ⟨c'', hc'', hle⟩ := h.2 i c hc
  cases hg.symm.trans hc''
  exact ⟨c, hc, hle⟩

theorem AllocEqv.refl (a : Alloc) : AllocEqv a a := ⟨AllocLe.refl a, AllocLe.refl a⟩
theorem AllocEqv.trans {a b c : Alloc} (h1 : AllocEqv a b) (h2 : AllocEqv b c) : AllocEqv a c :=
  ⟨AllocLe.trans h1.1 h2.1, AllocLe.trans h2.2 h1.2⟩
theorem AllocEqv.symm {a b : Alloc} (h : AllocEqv a b) : AllocEqv b a := ⟨h.2, h.1⟩

theorem AllocLe.set {a : Alloc} {i : Nat} {c c' : CC} (hget : a.get? i = some c) (h : CCLe c c') :
    AllocLe a (a.set i c') := by
  refine ⟨a.set_length i c', fun j d hd => ?_⟩
  by_cases hij : i = j
  · subst hij; rw [hget] at hd; cases hd; exact ⟨c', Alloc.get?_set_self _ _ _ _ hget, h⟩
  · exact ⟨d, (Alloc.get?_set_ne _ _ _ _ hij).trans hd, CCLe.refl d⟩

theorem AllocLe.set_rev {a : Alloc} {i : Nat} {c c' : CC} (hget : a.get? i = some c) (h : CCLe c' c) :
    AllocLe (a.set i c') a := by
  refine ⟨(a.set_length i c').symm, fun j d hd => ?_⟩
  by_cases hij : i = j
  · subst hij; rw [Alloc.get?_set_self _ _ _ _ hget] at hd; cases hd; exact ⟨c, hget, h⟩
  · rw [Alloc.get?_set_ne _ _ _ _ hij] at hd; exact ⟨d, hd, CCLe.refl d⟩

theorem CCLe.setPool {c d : CC} {f : Fam} {p q : Pool} (h : CCLe c d) (hp : c.pool f = some p) (hq : PoolLe p q) :
    CCLe c (d.setPool f q) := by
  obtain ⟨h1, h2, h3, h4, h5, h6⟩ := h
  refine ⟨(d.setPool_key f q).trans h1, (d.setPool_reqs f q).trans h2, (d.setPool_name f q).trans h3,
    (d.setPool_assoc f q).trans h4, (d.setPool_term f q).trans h5, fun g => ?_⟩
  by_cases hg : g = f
  · subst hg; rw [CC.pool_setPool_same, hp]; exact hq
  · rw [CC.pool_setPool_other _ _ _ _ hg]; exact h6 g

theorem CCLe.setPool_left {c d : CC} {f : Fam} {p q : Pool} (h : CCLe d c) (hp : c.pool f = some p) (hq : PoolLe q p) :
    CCLe (d.setPool f q) c := by
  obtain ⟨h1, h2, h3, h4, h5, h6⟩ := h
  refine ⟨h1.trans (d.setPool_key f q).symm, h2.trans (d.setPool_reqs f q).symm, h3.trans (d.setPool_name f q).symm,
    h4.trans (d.setPool_assoc f q).symm, h5.trans (d.setPool_term f q).symm, fun g => ?_⟩
  by_cases hg : g = f
  · subst hg; rw [CC.pool_setPool_same, hp]; exact hq
  · rw [CC.pool_setPool_other _ _ _ _ hg]; exact h6 g

theorem AllocLe.setPool {a : Alloc} {i : Nat} {c : CC} {f : Fam} {p p' : Pool}
    (hget : a.get? i = some c) (hp : c.pool f = some p) (hle : PoolLe p p') : AllocLe a (a.set i (c.setPool f p')) :=
  AllocLe.set hget ((CCLe.refl c).setPool hp hle)

theorem AllocLe.mem_usedCidrs {a a' : Alloc} (h : AllocLe a a') {f : Fam} {u : Cidr} (hu : u ∈ a.usedCidrs f) :
    u ∈ a'.usedCidrs f := by
  obtain ⟨j, d, q, k, hj, hd, hk, rfl⟩ := (a.mem_usedCidrs_iff f u).mp hu
  obtain ⟨d', hj', hle⟩ := h.2 j d hj
  obtain ⟨q', hq, hql⟩ := hle.pool_fwd hd
  exact (a'.mem_usedCidrs_iff f _).mpr ⟨j, d', q', k, hj', hq, hql.2.2 k hk, by rw [hql.1]⟩

theorem blocked_mono {a a' : Alloc} (h : AllocLe a a') (blk : Cidr) (hb : a.blocked blk = true) : a'.blocked blk = true :=
  let ⟨u, hu, ho⟩ := (a.blocked_iff blk).mp hb
  (a'.blocked_iff blk).mpr ⟨u, h.mem_usedCidrs hu, ho⟩

theorem blocked_eqv {a a' : Alloc} (h : AllocEqv a a') (blk : Cidr) : a'.blocked blk = a.blocked blk := by
  rw [Bool.eq_iff_iff]
  exact ⟨blocked_mono h.2 blk, blocked_mono h.1 blk⟩

theorem AllocEqv.set {a : Alloc} {i : Nat} {c c' : CC} (hget : a.get? i = some c) (h : CCLe c c' ∧ CCLe c' c) :
    AllocEqv a (a.set i c') := ⟨AllocLe.set hget h.1, AllocLe.set_rev hget h.2⟩

theorem AllocEqv.setCursor {a : Alloc} {i : Nat} {c : CC} {f : Fam} {p : Pool} (hget : a.get? i = some c)
    (hp : c.pool f = some p) (x : Nat) : AllocEqv a (a.set i (c.setPool f { p with cursor := x })) :=
  AllocEqv.set hget ⟨(CCLe.refl c).setPool hp ⟨rfl, rfl, fun _ h => h⟩, (CCLe.refl c).setPool_left hp ⟨rfl, rfl, fun _ h => h⟩⟩

/-! ### the loop of `allocateCIDR` -/

theorem CC.setPool_setPool (c : CC) (f : Fam) (p q : Pool) : (c.setPool f p).setPool f q = c.setPool f q := by
  cases f <;> rfl

theorem Alloc.set_set (a : Alloc) (i : Nat) (c d : CC) : (a.set i c).set i d = a.set i d :=
  congrArg Alloc.mk (List.set_set ..)

theorem CC.setPool_self (c : CC) (f : Fam) (p : Pool) (h : c.pool f = some p) : c.setPool f p = c := by
  cases f <;> cases c <;> cases h <;> rfl

theorem Alloc.set_self (a : Alloc) (i : Nat) (c : CC) (h : a.get? i = some c) : a.set i c = a := by
  obtain ⟨hl, rfl⟩ := List.getElem?_eq_some_iff.mp h
  exact congrArg Alloc.mk (List.set_getElem_self hl)

theorem Pool.with_cursor_self (p : Pool) : { p with cursor := p.cursor } = p := rfl

/-- block `k` of the pool cannot be handed out: it is used there, or overlaps a used block somewhere -/
def Unavail (a : Alloc) (p : Pool) (k : Nat) : Prop := k ∈ p.used ∨ a.blocked (goBlock p.geo k) = true

theorem all_unavail_of_cycle {a : Alloc} {p : Pool} {b ev : Nat} (hm : 0 < p.max) (hev : ev ≥ p.max)
    (hprev : ∀ j, j < ev → Unavail a p ((b + j) % p.max)) : ∀ k, k < p.max → Unavail a p k := by
  intro k hk
  obtain ⟨j, hj, hjk⟩ := cyclic_cover (m := p.max) (s := b % p.max) (i := k) (Nat.mod_lt _ hm) hk
  have := hprev j (Nat.lt_of_lt_of_le hj hev)
  rwa [← Nat.mod_add_mod, hjk] at this

theorem PoolOK.take {f : Fam} {p : Pool} (hp : PoolOK f p) {k : Nat} (hk : k < p.max) (hfree : k ∉ p.used) :
    PoolOK f (p.take k) :=
  PoolOK_occupy hp (goBlock_WF hp hk) (Pool.occupy_free hp.supported hk hfree)

/-- **the loop of `allocateCIDR`** on pool `p` of entry `i`.  Until it succeeds the loop moves nothing but this
pool's cursor, so every round starts in the initial state with another cursor: `ev` is the loop variable
`evaluated`, the `ev` indices that cyclically follow `b` were found unavailable, the cursor is at the next. -/
theorem allocLoop_cursor {a : Alloc} {i : Nat} {f : Fam} {c : CC} {p : Pool} (hget : a.get? i = some c)
    (hp : c.pool f = some p) (hok : PoolOK f p) (b : Nat) :
    ∀ fuel ev, fuel + ev ≥ p.max → (∀ j, j < ev → Unavail a p ((b + j) % p.max)) →
      match allocLoop (a.set i (c.setPool f { p with cursor := (b + ev) % p.max })) i f fuel ev with
      | (a', none) => (∀ k, k < p.max → Unavail a p k) ∧
          ∃ x, a' = a.set i (c.setPool f { p with cursor := x }) ∧ x < p.max
      | (a', some blk) => ∃ k x p', k < p.max ∧ blk = goBlock p.geo k ∧ k ∉ p.used ∧ a.blocked blk = false ∧
          x < p.max ∧ ({ p with cursor := x } : Pool).occupy blk = some p' ∧ a' = a.set i (c.setPool f p') := by
  have hm : 0 < p.max := p.geo.max_pos
  have hokx (x : Nat) : PoolOK f ({ p with cursor := x % p.max } : Pool) := PoolOK_cursor hok (Nat.mod_lt x hm)
  intro fuel
  induction fuel with
  | zero =>
    intro ev hfuel hprev
    exact ⟨all_unavail_of_cycle hm (Nat.zero_add ev ▸ hfuel) hprev, _, rfl, Nat.mod_lt _ hm⟩
  | succ fuel ih =>
    intro ev hfuel hprev
    unfold allocLoop
    rw [Alloc.get?_set_self _ _ _ _ hget]
    dsimp only
    rw [CC.pool_setPool_same]
    dsimp only
    by_cases hev : ev ≥ ({ p with cursor := (b + ev) % p.max } : Pool).max
    · rw [if_pos hev]
      exact ⟨all_unavail_of_cycle hm hev hprev, _, rfl, Nat.mod_lt _ hm⟩
    rw [if_neg hev]
    replace hev : ¬ ev ≥ p.max := hev
    cases hn : ({ p with cursor := (b + ev) % p.max } : Pool).next with
    | none => exact ⟨fun k hk => .inl ((C14.next_none_iff (hokx _).inv).mp hn k hk), _, rfl, Nat.mod_lt _ hm⟩
    | some r =>
      obtain ⟨k, skipped, p'⟩ := r
      have hns : k < p.max ∧ k ∉ p.used ∧ skipped < p.max ∧ k = ((b + ev) % p.max + skipped) % p.max ∧
          (∀ j, j < skipped → ((b + ev) % p.max + j) % p.max ∈ p.used) ∧
          p' = { p with cursor := (k + 1) % p.max } ∧ _ := C14.next_some (hokx _).inv hn
      obtain ⟨hk, hkfree, hsk, hkidx, hskipped, rfl, _⟩ := hns
      rw [Nat.mod_add_mod, Nat.add_assoc] at hkidx
      dsimp only
      -- the state after the cursor has moved past `k`
      rw [Alloc.set_set, CC.setPool_setPool, blocked_eqv (AllocEqv.setCursor hget hp _)]
      by_cases hbl : a.blocked (goBlock p.geo k) = true
      · rw [if_pos hbl]
        have hcur : (k + 1) % p.max = (b + (ev + skipped + 1)) % p.max := by rw [hkidx, Nat.mod_add_mod]; rfl
        rw [hcur]
        refine ih (ev + skipped + 1) (by omega) fun j hj => ?_
        by_cases h1 : j < ev
        · exact hprev j h1
        · by_cases h2 : j < ev + skipped
          · have := hskipped (j - ev) (by omega)
            rw [Nat.mod_add_mod, Nat.add_assoc, Nat.add_sub_cancel' (Nat.le_of_not_lt h1)] at this
            exact .inl this
          · have e : j = ev + skipped := by omega
            exact .inr (e ▸ hkidx ▸ hbl)
      · rw [if_neg hbl]
        have hocc := C14.occupy_block (hokx (k + 1)).supported hk
        rw [CC.occupy_of_pool hok.fam (CC.pool_setPool_same _ _ _) hocc]
        dsimp only
        rw [Alloc.set_set, CC.setPool_setPool]
        exact ⟨k, _, _, hk, rfl, hkfree, Bool.eq_false_iff.mpr hbl, Nat.mod_lt _ hm, hocc, rfl⟩

/-- `allocLoop_cursor` from the state the loop starts in (the cursor where it is) -/
theorem allocLoop_spec (i : Nat) (f : Fam) (b : Nat) :
    ∀ (fuel ev : Nat) (a : Alloc) (c : CC) (p : Pool),
      a.get? i = some c → c.pool f = some p → PoolOK f p →
      fuel + ev ≥ p.max → p.cursor = (b + ev) % p.max → (∀ j, j < ev → Unavail a p ((b + j) % p.max)) →
      (∀ a', allocLoop a i f fuel ev = (a', none) →
          (∀ k, k < p.max → Unavail a p k) ∧ ∃ x, a' = a.set i (c.setPool f { p with cursor := x }) ∧ x < p.max) ∧
      (∀ a' blk, allocLoop a i f fuel ev = (a', some blk) →
          ∃ k x p', k < p.max ∧ blk = goBlock p.geo k ∧ k ∉ p.used ∧ a.blocked blk = false ∧ x < p.max ∧
            ({ p with cursor := x } : Pool).occupy blk = some p' ∧ a' = a.set i (c.setPool f p')) := by
  intro fuel ev a c p hget hp hok hfuel hcur hprev
  have h := allocLoop_cursor hget hp hok b fuel ev hfuel hprev
  -- the state the loop starts in is `a` itself
  rw [← hcur, CC.setPool_self _ _ _ hp, Alloc.set_self _ _ _ hget] at h
  constructor
  · intro a' e; rw [e] at h; exact h
  · intro a' blk e; rw [e] at h; exact h

theorem allocate_exact {a : Alloc} {i : Nat} {f : Fam} {c : CC} {p : Pool}
    (hget : a.get? i = some c) (hp : c.pool f = some p) (hok : PoolOK f p) :
    (∃ x, x < p.max ∧ (∀ k, k < p.max → Unavail a p k) ∧
      a.allocate i f = (a.set i (c.setPool f { p with cursor := x }), none)) ∨
    ∃ k x, k < p.max ∧ k ∉ p.used ∧ a.blocked (goBlock p.geo k) = false ∧ x < p.max ∧
      a.allocate i f = (a.set i (c.setPool f (({ p with cursor := x } : Pool).take k)), some (goBlock p.geo k)) := by
  have hs := allocLoop_spec i f p.cursor p.max 0 a c p hget hp hok (Nat.le_refl _)
    (Nat.mod_eq_of_lt hok.inv.cursor_lt).symm fun j hj => absurd hj (Nat.not_lt_zero j)
  unfold Alloc.allocate
  simp only [hget, hp]
  cases h : allocLoop a i f p.max 0 with
  | mk a' r =>
    cases r with
    | none =>
      obtain ⟨hall, x, rfl, hx⟩ := hs.1 a' h
      exact .inl ⟨x, hx, hall, rfl⟩
    | some blk =>
      obtain ⟨k, x, p', hk, rfl, hfree, hnb, hx, hocc, rfl⟩ := hs.2 a' _ h
      cases (Pool.occupy_free (PoolOK_cursor hok hx).supported hk hfree).symm.trans hocc
      exact .inr ⟨k, x, hk, hfree, hnb, hx, rfl⟩

/-- in a well-formed map a used block of the pool itself is found by the overlap check -/
theorem Unavail_iff_blocked {a : Alloc} {i : Nat} {f : Fam} {c : CC} {p : Pool}
    (hget : a.get? i = some c) (hp : c.pool f = some p) (hok : PoolOK f p) {k : Nat} (hk : k < p.max) :
    Unavail a p k ↔ a.blocked (goBlock p.geo k) = true := by
  unfold Unavail
  constructor
  · rintro (h | h)
    · have hfam : (goBlock p.geo k).fam = f := hok.fam
      exact (a.blocked_iff _).mpr ⟨_, (a.mem_usedCidrs_iff _ _).mpr ⟨i, c, p, k, hget, hfam ▸ hp, h, rfl⟩,
        goOverlap_self (goBlock_WF hok hk)⟩
    · exact h
  · exact Or.inr

/-! ### the loop body of `prioritizedCIDRs` -/

theorem Alloc.tryEntry_of_get_none {a : Alloc} {i : Nat} (h : a.get? i = none) : a.tryEntry i = (a, none) := by
  unfold Alloc.tryEntry; rw [h]

/-- what `prioritizedCIDRs` does for one family of the entry at position `i`: nothing if the entry had no pool of
that family when the loop body began (the first index), otherwise one `allocateCIDR` -/
inductive AllocFam (a : Alloc) (i : Nat) (f : Fam) : Option Pool → Alloc → Option (List Cidr) → Prop
  | absent : AllocFam a i f none a (some [])
  | failed {p : Pool} {a' : Alloc} (hal : a.allocate i f = (a', none)) : AllocFam a i f (some p) a' none
  | served {p : Pool} {a' : Alloc} {b : Cidr} (hal : a.allocate i f = (a', some b)) :
      AllocFam a i f (some p) a' (some [b])

/-- the outcomes of the loop body of `prioritizedCIDRs` on entry `c` at position `i`: IPv4 refuses; both
families serve (or are absent); IPv6 refuses and what IPv4 reserved is given back -/
inductive TryEntry (a : Alloc) (i : Nat) (c : CC) : Alloc × Option (List Cidr) → Prop
  | skip4 {a1 : Alloc} (h4 : AllocFam a i .v4 c.v4 a1 none) : TryEntry a i c (a1, none)
  | served {a1 a2 : Alloc} {l4 l6 : List Cidr} (h4 : AllocFam a i .v4 c.v4 a1 (some l4))
      (h6 : AllocFam a1 i .v6 c.v6 a2 (some l6)) : TryEntry a i c (a2, some (l4 ++ l6))
  | skip6 {a1 a2 : Alloc} {l4 : List Cidr} (h4 : AllocFam a i .v4 c.v4 a1 (some l4))
      (h6 : AllocFam a1 i .v6 c.v6 a2 none) : TryEntry a i c ((a2.releaseAll i l4).1, none)

theorem Alloc.tryEntry_cases {a : Alloc} {i : Nat} {c : CC} (hget : a.get? i = some c) :
    TryEntry a i c (a.tryEntry i) := by
  unfold Alloc.tryEntry
  rw [hget]
  dsimp only
  cases h4 : c.v4 with
  | none =>
    have e4 : AllocFam a i .v4 c.v4 a (some []) := by rw [h4]; exact .absent
    dsimp only
    cases h6 : c.v6 with
    | none => exact .served e4 (by rw [h6]; exact .absent)
    | some p6 =>
      dsimp only
      cases hal : a.allocate i .v6 with
      | mk a2 r =>
        cases r with
        | none => exact .skip6 e4 (by rw [h6]; exact .failed hal)
        | some b6 => exact .served e4 (by rw [h6]; exact .served hal)
  | some p4 =>
    dsimp only
    cases hal4 : a.allocate i .v4 with
    | mk a1 r4 =>
      cases r4 with
      | none => exact .skip4 (by rw [h4]; exact .failed hal4)
      | some b4 =>
        have e4 : AllocFam a i .v4 c.v4 a1 (some [b4]) := by rw [h4]; exact .served hal4
        dsimp only
        cases h6 : c.v6 with
        | none => exact .served e4 (by rw [h6]; exact .absent)
        | some p6 =>
          dsimp only
          cases hal6 : a1.allocate i .v6 with
          | mk a2 r6 =>
            cases r6 with
            | some b6 => exact .served e4 (by rw [h6]; exact .served hal6)
            | none =>
              -- the roll-back loop, over the one block, is `releaseAll` without its verdict
              dsimp only
              have key (s : Alloc) (e : (a2.releaseAll i [b4]).1 = s) : TryEntry a i c (s, none) :=
                e ▸ .skip6 e4 (by rw [h6]; exact .failed hal6)
              apply key
              unfold Alloc.releaseAll
              dsimp only [List.foldl]
              cases a2.get? i with
              | none => rfl
              | some d => dsimp only; cases d.release b4 <;> rfl

theorem Alloc.tryEntry_eq_some {a a' : Alloc} {i : Nat} {c : CC} {cidrs : List Cidr} (hget : a.get? i = some c)
    (h : a.tryEntry i = (a', some cidrs)) :
    ∃ a1 l4 l6, cidrs = l4 ++ l6 ∧ AllocFam a i .v4 c.v4 a1 (some l4) ∧ AllocFam a1 i .v6 c.v6 a' (some l6) := by
  have ht := Alloc.tryEntry_cases hget
  rw [h] at ht
  generalize hr : some cidrs = r at ht
  cases ht with
  | skip4 _ | skip6 _ _ => cases hr
  | served h4 h6 => cases hr; exact ⟨_, _, _, rfl, h4, h6⟩

theorem AllocFam.served_block {a a' : Alloc} {i : Nat} {f : Fam} {c : CC} (hget : a.get? i = some c)
    (hok : ∀ p, c.pool f = some p → PoolOK f p) {l : List Cidr} (h : AllocFam a i f (c.pool f) a' (some l)) :
    (∃ c', a'.get? i = some c' ∧ ∀ g, g ≠ f → c'.pool g = c.pool g) ∧
    ((c.pool f = none ∧ l = []) ∨ ∃ p k, c.pool f = some p ∧ k < p.max ∧ l = [goBlock p.geo k]) := by
  generalize ho : c.pool f = o at h
  cases h with
  | absent => exact ⟨⟨c, hget, fun _ _ => rfl⟩, .inl ⟨rfl, rfl⟩⟩
  | served hal =>
    rcases allocate_exact hget ho (hok _ ho) with ⟨_, _, _, e⟩ | ⟨k, _, hk, _, _, _, e⟩ <;> cases hal.symm.trans e
    exact ⟨⟨_, Alloc.get?_set_self _ _ _ _ hget, fun g hg => CC.pool_setPool_other _ _ _ _ hg⟩, .inr ⟨_, k, rfl, hk, rfl⟩⟩

/-- **the walk of `prioritizedCIDRs`**: a property of "the entries `pre` were skipped and left the state `s`" that
holds at the start and is kept by every skipped entry holds at the end of a walk that serves nobody, and holds of the
state in which the serving entry is tried otherwise -/
theorem Alloc.prioritized_induct {P : List Nat → Alloc → Prop} (l : List Nat) {a : Alloc} (h0 : P [] a)
    (hskip : ∀ pre s i s', P pre s → s.tryEntry i = (s', none) → P (pre ++ [i]) s') :
    match a.prioritized l with
    | (a', none) => P l a'
    | (a', some (cidrs, i)) => ∃ pre post s, l = pre ++ i :: post ∧ P pre s ∧ s.tryEntry i = (a', some cidrs) := by
  induction l generalizing a P with
  | nil => exact h0
  | cons j rest ih =>
    unfold Alloc.prioritized
    cases ht : a.tryEntry j with
    | mk a1 r =>
      cases r with
      | some cidrs => exact ⟨[], rest, a, rfl, h0, ht⟩
      | none =>
        have := ih (P := fun pre s => P (j :: pre) s) (hskip [] a j a1 h0 ht) fun pre s i s' => hskip (j :: pre) s i s'
        dsimp only
        cases hp : a1.prioritized rest with
        | mk a' r' =>
          rw [hp] at this
          cases r' with
          | none => exact this
          | some ci =>
            obtain ⟨pre, post, s, hl, hP, hs⟩ := this
            exact ⟨j :: pre, post, s, by rw [hl]; rfl, hP, hs⟩

end Ipam
