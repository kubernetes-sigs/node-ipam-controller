/-! Insertion sort rearranges its input: `pqInsert` (Alloc), `insertStr` (Selector) and `insertName` (System) walk down the list
to the first element that passes a test and put the new one there; whatever the test, that rearranges `x :: l`. -/
namespace Ipam

theorem insert_perm {α : Type} (ins : α → List α → List α) (c : α → α → Prop) [DecidableRel c]
    (nil : ∀ x, ins x [] = [x])
    (cons : ∀ x h t, ins x (h :: t) = if c x h then x :: h :: t else h :: ins x t)
    (x : α) (l : List α) : (ins x l).Perm (x :: l) := by
  induction l with
  | nil => rw [nil]
  | cons h t ih =>
    rw [cons]
    split
    · exact .refl _
    · exact (ih.cons h).trans (.swap x h t)

theorem foldr_insert_perm {α : Type} {ins : α → List α → List α} (h : ∀ x l, (ins x l).Perm (x :: l))
    (l : List α) : (l.foldr ins []).Perm l := by
  induction l with
  | nil => exact .refl _
  | cons x t ih => exact (h x _).trans (ih.cons x)

end Ipam
