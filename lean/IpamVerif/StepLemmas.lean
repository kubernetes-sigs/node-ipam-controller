import IpamVerif.ItemLemmas
import IpamVerif.BootLemmas
/-!
# What each event can change

`step` is one `match` over fourteen events.  A property that speaks of one component of the state — the allocator
state, the node objects of the API, a cache, a queue — is touched by few of them.  This file says which:

* nine events are the world outside editing the API (`Ev.envNode`, `Ev.envCC`): they change `api.nodes`/`api.graves`
  resp. `api.ccs` and nothing else (`step_envNode`, `step_envCC`);
* the node objects of the API change, under *any* event, in one of three ways (`NodesStep`, `step_nodes`): a new
  name is appended, a name is deleted, or an object is overwritten by one that `NodeObj.Evolves` from it (the server
  never changes pod CIDRs once set); likewise the ClusterCIDR objects (`CCsStep`, `step_ccs`): every overwrite raises
  the resource version;
* a node work item changes, outside the allocator state, only `api.nodes` (by at most one accepted PATCH of its own
  node), its own cache entry (only when the informer catches up in the middle, `refresh`) and the node queue
  (`NodeItem`); a ClusterCIDR work item only `api.ccs` (one Update of its own object) and its queue (`CCItem`);
* a notification has three outcomes (`step_deliverNode`, `step_deliverCC`); a work item is ignored unless its key is queued,
  and is `procNode` / `procCC` otherwise (`step_procNode`, `step_procCC`);
* the allocator state is touched by a restart, the delete handler's `releaseCIDR` and the two work items (`step_alloc`).

`run_induction` is the induction over histories that the `*_run` theorems are instances of.
-/
namespace Ipam

/-- events by which the world outside the controller edits node objects / ClusterCIDR objects -/
def Ev.envNode : Ev → Bool
  | .nodeAdd _ | .nodeDel _ | .nodeLabels .. | .nodeDeleting _ | .nodeSetCIDRs .. => true
  | _ => false
def Ev.envCC : Ev → Bool
  | .ccAdd .. | .ccDel _ | .ccGen .. | .ccAddFin .. => true
  | _ => false

theorem patchNode_ccs (a : Api) (name : String) (cidrs : List Cidr) : (a.patchNode name cidrs).1.ccs = a.ccs := by
  rcases patchNode_cases a name cidrs with h | ⟨_, _, _, h⟩ <;> rw [h]

-- The two equations below say only that nothing else moves; event by event that is `rfl` once the `if`/`match` of the
-- event is split, so the cases are not spelt out.  The step is named `r` first, so that it is unfolded and split once
-- and not at each place the equation mentions it.
theorem step_envNode {e : Ev} (h : e.envNode = true) (s : Sys) :
    step s e = ({ s with api := { s.api with nodes := (step s e).1.api.nodes, graves := (step s e).1.api.graves } }, {}) := by
  generalize hr : step s e = r
  cases e <;> first | cases h | skip
  case nodeSetCIDRs name cidrs =>
    subst hr
    show (_, _) = (({ s with api := ⟨_, s.api.ccs, _⟩ } : Sys), _)
    rw [← patchNode_ccs s.api name cidrs]; rfl
  all_goals dsimp only [step] at hr
  all_goals split at hr
  all_goals subst hr; rfl

theorem step_envCC {e : Ev} (h : e.envCC = true) (s : Sys) :
    step s e = ({ s with api := { s.api with ccs := (step s e).1.api.ccs } }, {}) := by
  generalize hr : step s e = r
  cases e <;> first | cases h | skip
  all_goals dsimp only [step] at hr
  all_goals repeat' split at hr
  all_goals subst hr; rfl

/-! ### how the API's node objects change -/

/-- the server's rule for a node object that stays: name and `junk` stay, pod CIDRs once set stay -/
def NodeObj.Evolves (y y' : NodeObj) : Prop :=
  y'.name = y.name ∧ y'.junk = y.junk ∧ (y.hasCidrs = true → y'.cidrs = y.cidrs)

theorem NodeObj.Evolves.hasCidrs {y y' : NodeObj} (h : y.Evolves y') (hc : y.hasCidrs = true) : y'.hasCidrs = true := by
  unfold NodeObj.hasCidrs at hc ⊢; rw [h.2.1, h.2.2 hc]; exact hc

/-- one event's worth of change to the list of node objects -/
inductive NodesStep : Ev → List NodeObj → List NodeObj → Prop
  | same {e l} : NodesStep e l l
  | add {l} (n : NodeObj) : getNode l n.name = none → NodesStep (.nodeAdd n) l (l ++ [n])
  | del {l} (name : String) : NodesStep (.nodeDel name) l (delNode l name)
  | put {e l name} (y y' : NodeObj) : getNode l name = some y → y.Evolves y' → NodesStep e l (putNode l y')

theorem NodesStep.patchNode (e : Ev) (a : Api) (name : String) (cidrs : List Cidr) :
    NodesStep e a.nodes (a.patchNode name cidrs).1.nodes := by
  rcases patchNode_cases a name cidrs with h | ⟨n, hg, hc, h⟩ <;> rw [h]
  · exact .same
  · exact .put n _ hg ⟨rfl, rfl, fun h => by rw [hc] at h; cases h⟩

theorem NodesStep.get {e : Ev} {l l' : List NodeObj} (h : NodesStep e l l') (x : String) :
    getNode l' x = getNode l x ∨
    (∃ n, e = .nodeAdd n ∧ n.name = x ∧ getNode l x = none ∧ getNode l' x = some n) ∨
    (e = .nodeDel x ∧ getNode l' x = none) ∨
    (∃ y y', getNode l x = some y ∧ getNode l' x = some y' ∧ y.Evolves y') := by
  cases h with
  | same => exact Or.inl rfl
  | add n hn =>
    by_cases hx : x = n.name
    · subst hx; exact Or.inr (Or.inl ⟨n, rfl, rfl, hn, Named.get_append_self (nm := NodeObj.name) l n hn⟩)
    · exact Or.inl (getNode_append_ne l n hx)
  | del name =>
    by_cases hx : x = name
    · subst hx; exact Or.inr (Or.inr (Or.inl ⟨rfl, getNode_delNode_self l x⟩))
    · exact Or.inl (getNode_delNode_ne l hx)
  | put y y' hy hev =>
    obtain ⟨_, rfl⟩ := mem_of_getNode hy
    by_cases hx : x = y.name
    · subst hx; exact Or.inr (Or.inr (Or.inr ⟨y, y', hy, hev.1 ▸ getNode_putNode_self l y', hev⟩))
    · exact Or.inl (getNode_putNode_ne l y' (hev.1 ▸ hx))

/-! ### how the API's ClusterCIDR objects change -/

inductive CCsStep : Ev → List CCObj → List CCObj → Prop
  | same {e l} : CCsStep e l l
  | add {l} (o : CCObj) : getCC l o.name = none → CCsStep (.ccAdd o.name o.spec) l (l ++ [o])
  | del {e l} (name : String) : CCsStep e l (delCC l name)
  | put {e l name} (o o' : CCObj) : getCC l name = some o → o'.name = o.name → o.rv < o'.rv → CCsStep e l (putCC l o')

theorem CCsStep.updateCC (e : Ev) (a : Api) (name : String) (rv : Nat) (fins : List String) :
    CCsStep e a.ccs (a.updateCC name rv fins).1.ccs := by
  rcases updateCC_cases a name rv fins with h | ⟨o, hg, _, ⟨_, _, h⟩ | ⟨_, h⟩⟩ <;> rw [h]
  · exact .same
  · exact .del name
  · exact .put o _ hg rfl (Nat.lt_succ_self _)

theorem CCsStep.attemptUpdate (e : Ev) (a : Api) (name : String) (rv : Nat) (fins : List String) (w : WOut) :
    CCsStep e a.ccs (attemptUpdate a name rv fins w).1.ccs := by
  rcases attemptUpdate_cases a name rv fins w with ⟨h, _⟩ | ⟨h, _⟩ <;> rw [h]
  · exact .same
  · exact .updateCC e a name rv fins

theorem CCsStep.get {e : Ev} {l l' : List CCObj} (h : CCsStep e l l') (x : String) :
    getCC l' x = getCC l x ∨
    (∃ sp, e = .ccAdd x sp ∧ getCC l x = none) ∨
    getCC l' x = none ∨
    (∃ o o', getCC l x = some o ∧ getCC l' x = some o' ∧ o.rv < o'.rv) := by
  cases h with
  | same => exact Or.inl rfl
  | add o ho =>
    by_cases hx : x = o.name
    · subst hx; exact Or.inr (Or.inl ⟨o.spec, rfl, ho⟩)
    · exact Or.inl (getCC_append_ne l o hx)
  | del name =>
    by_cases hx : x = name
    · subst hx; exact Or.inr (Or.inr (Or.inl (getCC_delCC_self l x)))
    · exact Or.inl (getCC_delCC_ne l hx)
  | put o o' ho hn hrv =>
    obtain ⟨_, rfl⟩ := mem_of_getCC ho
    by_cases hx : x = o.name
    · subst hx; exact Or.inr (Or.inr (Or.inr ⟨o, o', ho, hn ▸ getCC_putCC_self l o', hrv⟩))
    · exact Or.inl (getCC_putCC_ne l o' (hn ▸ hx))

theorem update_rest (s : Sys) (name : String) (cidrs : List Cidr) (i : Nat) (ws : List WOut) :
    (updateCIDRsAllocation s name cidrs i ws).1 =
      { s with api := (updateCIDRsAllocation s name cidrs i ws).1.api, alloc := (updateCIDRsAllocation s name cidrs i ws).1.alloc } ∧
    ((updateCIDRsAllocation s name cidrs i ws).1.api = s.api ∨
     (updateCIDRsAllocation s name cidrs i ws).1.api = (s.api.patchNode name cidrs).1) := by
  have hp := patchLoop_api s.api name cidrs 3 ws []
  rcases update_cases s name cidrs i with ⟨_, e⟩ | ⟨n, _, ⟨_, _, e⟩ | ⟨_, _, e⟩ | ⟨_, _, e⟩⟩ <;> rw [e ws]
  · exact ⟨rfl, Or.inl rfl⟩
  · exact ⟨rfl, Or.inl rfl⟩
  · exact ⟨rfl, Or.inl rfl⟩
  · split <;> exact ⟨rfl, hp⟩

/-- A node work item outside the allocator state: at most one PATCH of the item's own node; its own cache entry, only
when the informer catches up in the middle (`refresh`) and then exactly as a notification would; the node queue gains at
most the item's key. -/
structure NodeItem (s s' : Sys) (name : String) (refresh : Bool) : Prop where
  ccView : s'.ccView = s.ccView
  ccQ : s'.ccQ = s.ccQ
  svcs : s'.svcs = s.svcs
  api : s'.api = s.api ∨ ∃ cidrs, s'.api = (s.api.patchNode name cidrs).1
  view : (s'.nodeView = s.nodeView ∧ s'.nodeQ = s.nodeQ) ∨
    (refresh = true ∧ s'.nodeQ = qAdd s.nodeQ name ∧
      ((∃ cur, getNode s.api.nodes name = some cur ∧ s'.nodeView = putNode s.nodeView cur) ∨
       (getNode s.api.nodes name = none ∧ s'.nodeView = delNode s.nodeView name)))

theorem NodeItem.alloc_only (s : Sys) (al : Alloc) (name : String) (refresh : Bool) :
    NodeItem s { s with alloc := al } name refresh := ⟨rfl, rfl, rfl, Or.inl rfl, Or.inl ⟨rfl, rfl⟩⟩

theorem patchNode_other (a : Api) (name : String) (cidrs : List Cidr) {z : String} (hz : z ≠ name) :
    getNode (a.patchNode name cidrs).1.nodes z = getNode a.nodes z := by
  rcases patchNode_cases a name cidrs with h | ⟨n, hg, _, h⟩ <;> rw [h]
  exact getNode_putNode_ne _ _ ((mem_of_getNode hg).2.symm ▸ hz)

theorem NodeItem.api_other {s s' : Sys} {name : String} {refresh : Bool} (h : NodeItem s s' name refresh) {z : String}
    (hz : z ≠ name) : getNode s'.api.nodes z = getNode s.api.nodes z := by
  rcases h.api with h | ⟨cidrs, h⟩ <;> rw [h]
  exact patchNode_other _ _ _ hz

theorem NodeItem.view_other {s s' : Sys} {name : String} {refresh : Bool} (h : NodeItem s s' name refresh) {z : String}
    (hz : z ≠ name) : getNode s'.nodeView z = getNode s.nodeView z := by
  rcases h.view with ⟨h, _⟩ | ⟨_, _, ⟨cur, hc, h⟩ | ⟨_, h⟩⟩ <;> rw [h]
  · exact getNode_putNode_ne _ _ ((mem_of_getNode hc).2.symm ▸ hz)
  · exact getNode_delNode_ne _ hz

theorem NodeItem.queue {s s' : Sys} {name : String} {refresh : Bool} (h : NodeItem s s' name refresh) {x : String}
    (hx : x ∈ s.nodeQ) : x ∈ s'.nodeQ := by
  rcases h.view with ⟨_, h⟩ | ⟨_, h, _⟩ <;> rw [h]
  · exact hx
  · exact mem_qAdd.mpr (Or.inr hx)

theorem NodeItem.update {s s2 : Sys} {name : String} {refresh : Bool} (h : NodeItem s s2 name refresh) (ha : s2.api = s.api)
    (cidrs : List Cidr) (i : Nat) (ws : List WOut) : NodeItem s (updateCIDRsAllocation s2 name cidrs i ws).1 name refresh := by
  obtain ⟨hrest, hapi⟩ := update_rest s2 name cidrs i ws
  refine ⟨?_, ?_, ?_, ?_, ?_⟩
  · rw [hrest]; exact h.ccView
  · rw [hrest]; exact h.ccQ
  · rw [hrest]; exact h.svcs
  · rw [ha] at hapi; exact hapi.imp id fun h => ⟨cidrs, h⟩
  · rw [hrest]; exact h.view

theorem allocateOrOccupy_item (s : Sys) (n : NodeObj) (refresh : Bool) (ws : List WOut) :
    NodeItem s (allocateOrOccupy s n refresh ws).1 n.name refresh := by
  rcases allocate_cases s n refresh with
    ⟨_, e⟩ | ⟨_, al, r, _, ⟨_, e⟩ | ⟨cidrs, i, _, _, ⟨_, e⟩ | ⟨hr, cur, hcur, e⟩ | ⟨hr, hnone, e⟩⟩⟩ <;> rw [e ws]
  · exact .alloc_only ..
  · exact .alloc_only ..
  · exact NodeItem.update (.alloc_only ..) rfl ..
  · exact NodeItem.update (s := s) (s2 := { s with alloc := al, nodeView := putNode s.nodeView cur, nodeQ := qAdd s.nodeQ n.name })
      ⟨rfl, rfl, rfl, Or.inl rfl, Or.inr ⟨hr, rfl, Or.inl ⟨cur, hcur, rfl⟩⟩⟩ rfl ..
  · exact ⟨rfl, rfl, rfl, Or.inl rfl, Or.inr ⟨hr, rfl, Or.inr ⟨hnone, rfl⟩⟩⟩

theorem procNodeCore_item (s : Sys) (name : String) (refresh : Bool) (ws : List WOut) :
    NodeItem s (procNodeCore s name refresh ws).1 name refresh := by
  rcases procNodeCore_cases s name refresh with ⟨_, e⟩ | ⟨n, _, hn, ⟨_, e⟩ | ⟨_, e⟩⟩ <;> rw [e ws]
  · exact .alloc_only s s.alloc name refresh
  · exact .alloc_only ..
  · exact hn ▸ allocateOrOccupy_item s n refresh ws

/-- the controller still owes the object a write: its finalizer is to be removed, or to be added -/
def CCObj.Owed (o : CCObj) : Prop := (o.deleting = true ∧ hasFin o = true) ∨ needFin o = true

/-- A ClusterCIDR work item: at most one Update of its own object, sent with the resource version of the cached object;
the map untouched, or the cached object's entry unmapped, or (object not under deletion) mapped.  The item reports
success only if its write did or, when it wrote nothing, if the cached object was owed nothing. -/
structure CCItem (s : Sys) (r : Sys × Obs) (name : String) (w : WOut) : Prop where
  nodeView : r.1.nodeView = s.nodeView
  ccView : r.1.ccView = s.ccView
  nodeQ : r.1.nodeQ = s.nodeQ
  ccQ : r.1.ccQ = s.ccQ
  svcs : r.1.svcs = s.svcs
  api : (r.1.api = s.api ∧ (r.2.res ≠ "err" → ∀ o, getCC s.ccView name = some o → ¬ o.Owed)) ∨
    ∃ o fins, getCC s.ccView name = some o ∧ r.1.api = (attemptUpdate s.api name o.rv fins w).1 ∧
      (r.2.res ≠ "err" → (attemptUpdate s.api name o.rv fins w).2.1 = true)
  alloc : r.1.alloc = s.alloc ∨
    (∃ o, getCC s.ccView name = some o ∧ r.1.alloc = (s.alloc.deleteCC o.name o.spec).1) ∨
    ∃ o al, getCC s.ccView name = some o ∧ o.deleting = false ∧ s.alloc.createCC o.name o.spec false = some al ∧
      r.1.alloc = al

theorem ok_of_res {b : Bool} (h : (if b then "ok" else "err") ≠ "err") : b = true := by
  cases b
  · exact absurd rfl h
  · rfl

theorem procCCCore_item (s : Sys) (name : String) (w : WOut) : CCItem s (procCCCore s name w) name w := by
  rcases procCCCore_cases s name w with ⟨h, e⟩ | ⟨o, hv, hn, ⟨hd, e⟩ | ⟨hd, hnf, e⟩⟩ <;> rw [e]
  · refine ⟨rfl, rfl, rfl, rfl, rfl, Or.inl ⟨rfl, fun _ o ho => ?_⟩, Or.inl rfl⟩
    rcases h with h | ⟨o', ho', hd, hnf⟩
    · rw [h] at ho; cases ho
    · rw [ho'] at ho; cases ho
      rintro (⟨h1, _⟩ | h1)
      · rw [hd] at h1; cases h1
      · rw [hnf] at h1; cases h1
  · subst hn
    rcases reconcileDelete_cases s o w with ⟨hf, e⟩ | ⟨_, ⟨_, e⟩ | ⟨_, fins, _, e⟩⟩ <;> rw [e]
    · refine ⟨rfl, rfl, rfl, rfl, rfl, Or.inl ⟨rfl, fun _ o' ho' => ?_⟩, Or.inl rfl⟩
      rw [hv] at ho'; cases ho'
      rintro (⟨_, h1⟩ | h1)
      · rw [hf] at h1; cases h1
      · simp [needFin, hd] at h1
    · exact ⟨rfl, rfl, rfl, rfl, rfl, Or.inl ⟨rfl, fun h => absurd rfl h⟩, Or.inr (Or.inl ⟨o, hv, rfl⟩)⟩
    · exact ⟨rfl, rfl, rfl, rfl, rfl, Or.inr ⟨o, fins, hv, rfl, ok_of_res⟩, Or.inr (Or.inl ⟨o, hv, rfl⟩)⟩
  · subst hn
    rcases createClusterCIDR_cases s o false w with ⟨_, e⟩ | ⟨al, fins, hc, _, e⟩ <;> rw [e]
    · exact ⟨rfl, rfl, rfl, rfl, rfl, Or.inl ⟨rfl, fun h => absurd rfl h⟩, Or.inl rfl⟩
    · exact ⟨rfl, rfl, rfl, rfl, rfl, Or.inr ⟨o, fins, hv, rfl, ok_of_res⟩, Or.inr (Or.inr ⟨o, al, hv, hd, hc, rfl⟩)⟩

theorem CCItem.nodes_graves {s : Sys} {r : Sys × Obs} {name : String} {w : WOut} (h : CCItem s r name w) :
    r.1.api.nodes = s.api.nodes ∧ r.1.api.graves = s.api.graves := by
  rcases h.api with ⟨h, _⟩ | ⟨_, _, _, h, _⟩ <;> rw [h]
  · exact ⟨rfl, rfl⟩
  · exact attemptUpdate_nodes_graves ..

theorem CCItem.ccs {s : Sys} {r : Sys × Obs} {name : String} {w : WOut} (h : CCItem s r name w) (e : Ev) :
    CCsStep e s.api.ccs r.1.api.ccs := by
  rcases h.api with ⟨h, _⟩ | ⟨_, _, _, h, _⟩ <;> rw [h]
  · exact .same
  · exact .attemptUpdate ..

theorem step_deliverNode (s : Sys) (name : String) (tomb : Bool) :
    (∃ cur, getNode s.api.nodes name = some cur ∧
      step s (.deliverNode name tomb) = ({ s with nodeView := putNode s.nodeView cur, nodeQ := qAdd s.nodeQ name }, {})) ∨
    (getNode s.api.nodes name = none ∧ getNode s.nodeView name = none ∧ step s (.deliverNode name tomb) = (s, {})) ∨
    (getNode s.api.nodes name = none ∧ ∃ stale, getNode s.nodeView name = some stale ∧
      step s (.deliverNode name tomb) =
        ({ s with alloc := (releaseCIDR s.alloc (if tomb then stale else (getNode s.api.graves name).getD stale)).1,
                  nodeView := delNode s.nodeView name, nodeQ := qAdd s.nodeQ name }, {})) := by
  cases hg : getNode s.api.nodes name with
  | some cur => exact Or.inl ⟨cur, rfl, by dsimp only [step]; rw [hg]⟩
  | none =>
    cases hv : getNode s.nodeView name with
    | none => exact Or.inr (Or.inl ⟨rfl, rfl, by dsimp only [step]; rw [hg, hv]⟩)
    | some stale => exact Or.inr (Or.inr ⟨rfl, stale, rfl, by dsimp only [step]; rw [hg, hv]⟩)

theorem step_deliverCC (s : Sys) (name : String) :
    (∃ cur, getCC s.api.ccs name = some cur ∧
      step s (.deliverCC name) = ({ s with ccView := putCC s.ccView cur, ccQ := qAdd s.ccQ name }, {})) ∨
    (getCC s.api.ccs name = none ∧ getCC s.ccView name = none ∧ step s (.deliverCC name) = (s, {})) ∨
    (getCC s.api.ccs name = none ∧
      step s (.deliverCC name) = ({ s with ccView := delCC s.ccView name, ccQ := qAdd s.ccQ name }, {})) := by
  cases hg : getCC s.api.ccs name with
  | some cur => exact Or.inl ⟨cur, rfl, by dsimp only [step]; rw [hg]⟩
  | none =>
    cases hv : getCC s.ccView name with
    | none => exact Or.inr (Or.inl ⟨rfl, rfl, by dsimp only [step]; rw [hg, hv]; rfl⟩)
    | some stale => exact Or.inr (Or.inr ⟨rfl, by dsimp only [step]; rw [hg, hv]; rfl⟩)

/-- a work item for a key that is not queued is ignored -/
theorem step_procNode (s : Sys) (name : String) (refresh : Bool) (ws : List WOut) :
    step s (.procNode name refresh ws) = (s, {}) ∨ step s (.procNode name refresh ws) = procNode s name refresh ws := by
  by_cases h : s.nodeQ.contains name = true
  · exact .inr (if_pos h)
  · exact .inl (if_neg h)

theorem step_procCC (s : Sys) (name : String) (w : WOut) :
    step s (.procCC name w) = (s, {}) ∨ step s (.procCC name w) = procCC s name w := by
  by_cases h : s.ccQ.contains name = true
  · exact .inr (if_pos h)
  · exact .inl (if_neg h)

theorem step_alloc (s : Sys) (e : Ev) :
    (step s e).1.alloc = s.alloc ∨ (∃ svcs ws, e = .boot svcs ws) ∨
    (∃ obj, (step s e).1.alloc = (releaseCIDR s.alloc obj).1) ∨
    (∃ name refresh ws, (step s e).1.alloc = (procNode s name refresh ws).1.alloc) ∨
    (∃ name w, (step s e).1.alloc = (procCC s name w).1.alloc) := by
  by_cases hn : e.envNode = true
  · rw [step_envNode hn]; exact Or.inl rfl
  by_cases hc : e.envCC = true
  · rw [step_envCC hc]; exact Or.inl rfl
  cases e with
  | boot svcs ws => exact Or.inr (Or.inl ⟨svcs, ws, rfl⟩)
  | procNode name refresh ws =>
    rcases step_procNode s name refresh ws with h | h <;> rw [h]
    · exact Or.inl rfl
    · exact Or.inr (Or.inr (Or.inr (Or.inl ⟨name, refresh, ws, rfl⟩)))
  | procCC name w =>
    rcases step_procCC s name w with h | h <;> rw [h]
    · exact Or.inl rfl
    · exact Or.inr (Or.inr (Or.inr (Or.inr ⟨name, w, rfl⟩)))
  | deliverNode name tomb =>
    rcases step_deliverNode s name tomb with ⟨_, _, h⟩ | ⟨_, _, h⟩ | ⟨_, _, _, h⟩ <;> rw [h]
    · exact Or.inl rfl
    · exact Or.inl rfl
    · exact Or.inr (Or.inr (Or.inl ⟨_, rfl⟩))
  | deliverCC name => rcases step_deliverCC s name with ⟨_, _, h⟩ | ⟨_, _, h⟩ | ⟨_, h⟩ <;> rw [h] <;> exact Or.inl rfl
  | ccAdd | ccDel | ccGen | ccAddFin => exact absurd rfl hc
  | _ => exact absurd rfl hn

/-! ### every event, seen from the API's objects -/

theorem NodeItem.nodes {s s' : Sys} {name : String} {refresh : Bool} (h : NodeItem s s' name refresh) (e : Ev) :
    NodesStep e s.api.nodes s'.api.nodes := by
  rcases h.api with h | ⟨cidrs, h⟩ <;> rw [h]
  · exact .same
  · exact .patchNode ..

theorem NodeItem.ccs {s s' : Sys} {name : String} {refresh : Bool} (h : NodeItem s s' name refresh) :
    s'.api.ccs = s.api.ccs := by
  rcases h.api with h | ⟨cidrs, h⟩ <;> rw [h]
  exact patchNode_ccs ..

theorem step_nodes (s : Sys) (e : Ev) : NodesStep e s.api.nodes (step s e).1.api.nodes := by
  cases e with
  | boot svcs ws => rw [show (step s (.boot svcs ws)) = boot s svcs ws from rfl, boot_nodes]; exact .same
  | nodeAdd n =>
    dsimp only [step]
    split
    · exact .same
    · rename_i h; exact .add n (by simpa using h)
  | nodeDel name =>
    dsimp only [step]
    split
    · exact .same
    · exact .del name
  | nodeLabels | nodeDeleting =>
    dsimp only [step]
    split
    · exact .same
    · rename_i y hy; exact .put y _ hy ⟨rfl, rfl, fun _ => rfl⟩
  | nodeSetCIDRs name cidrs => exact .patchNode ..
  | procNode name refresh ws =>
    rcases step_procNode s name refresh ws with h | h <;> rw [h]
    · exact .same
    · rw [procNode_eq]; exact (procNodeCore_item { s with nodeQ := qDel s.nodeQ name } name refresh ws).nodes _
  | procCC name w =>
    rcases step_procCC s name w with h | h <;> rw [h]
    · exact .same
    · rw [procCC_eq]
      exact (procCCCore_item { s with ccQ := qDel s.ccQ name } name w).nodes_graves.1 ▸ .same
  | deliverNode name tomb =>
    rcases step_deliverNode s name tomb with ⟨_, _, h⟩ | ⟨_, _, h⟩ | ⟨_, _, _, h⟩ <;> rw [h] <;> exact .same
  | deliverCC name =>
    rcases step_deliverCC s name with ⟨_, _, h⟩ | ⟨_, _, h⟩ | ⟨_, h⟩ <;> rw [h] <;> exact .same
  | _ => rw [step_envCC rfl]; exact .same

-- a restart is excluded: it sends one Update per listed object
theorem step_ccs (s : Sys) (e : Ev) (hb : ∀ svcs ws, e ≠ .boot svcs ws) : CCsStep e s.api.ccs (step s e).1.api.ccs := by
  cases e with
  | boot svcs ws => exact absurd rfl (hb svcs ws)
  | ccAdd name spec =>
    dsimp only [step]
    split
    · exact .same
    · rename_i h; exact .add ⟨name, spec, [], false, 1, freshRv s⟩ (by simpa using h)
  | ccDel name =>
    dsimp only [step]
    split
    · exact .same
    · rename_i o ho
      split
      · exact .del name
      · exact .put o _ ho rfl (Nat.lt_succ_self _)
  | ccGen name g =>
    dsimp only [step]
    split
    · exact .same
    · rename_i o ho; exact .put o _ ho rfl (Nat.lt_succ_self _)
  | ccAddFin name fin =>
    dsimp only [step]
    split
    · exact .same
    · rename_i o ho
      split
      · exact .same
      · exact .put o _ ho rfl (Nat.lt_succ_self _)
  | procNode name refresh ws =>
    rcases step_procNode s name refresh ws with h | h <;> rw [h]
    · exact .same
    · rw [procNode_eq]; exact (procNodeCore_item { s with nodeQ := qDel s.nodeQ name } name refresh ws).ccs ▸ .same
  | procCC name w =>
    rcases step_procCC s name w with h | h <;> rw [h]
    · exact .same
    · rw [procCC_eq]; exact (procCCCore_item { s with ccQ := qDel s.ccQ name } name w).ccs _
  | deliverNode name tomb =>
    rcases step_deliverNode s name tomb with ⟨_, _, h⟩ | ⟨_, _, h⟩ | ⟨_, _, _, h⟩ <;> rw [h] <;> exact .same
  | deliverCC name =>
    rcases step_deliverCC s name with ⟨_, _, h⟩ | ⟨_, _, h⟩ | ⟨_, h⟩ <;> rw [h] <;> exact .same
  | _ => rw [step_envNode rfl]; exact .same

/-- `FA` is the fragment lifted to histories, given by how it unfolds on a first event (`FragAll`, `Frag2All`, `Frag3All`
unfold so by definition). -/
theorem run_induction {P : Sys → Prop} {F : Sys → Ev → Prop} {FA : Sys → List Ev → Prop}
    (hcons : ∀ {s e rest}, FA s (e :: rest) → F s e ∧ FA (step s e).1 rest)
    (hstep : ∀ {s} e, P s → F s e → P (step s e).1) :
    ∀ (evs : List Ev) (s : Sys), P s → FA s evs → P (run s evs)
  | [], _, h, _ => h
  | e :: rest, _, h, hf => run_induction hcons hstep rest _ (hstep e h (hcons hf).1) (hcons hf).2

end Ipam
