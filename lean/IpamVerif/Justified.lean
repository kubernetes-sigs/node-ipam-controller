import IpamVerif.AllocOrder
import IpamVerif.ItemLemmas
/-!
# C04 — blocks are withheld only while something in the cluster justifies it

Proved here (the release paths of one work item):
* a block reserved by `allocateCIDR` and given back by `Release` leaves the pool's used set exactly as it
  was (`reserve_then_release_restores`, from `AllocOrder.lean`) — the path taken when the other family of a dual-stack
  ClusterCIDR is exhausted (after the repair of `prioritizedCIDRs`), when the node turns out to have pod
  CIDRs already, when the write is rejected, and when the node cannot be read back (after the repair of
  `updateCIDRsAllocation`);
* in each of those branches `updateCIDRsAllocation` does call `releaseAll` on exactly the reserved CIDRs
  of the serving entry, and in the success branch it does not (`failed_write_releases`,
  `node_has_cidrs_releases`, `vanished_node_releases`, `success_keeps`);
* a failing allocation from a pool changes no used set at all, only cursors (`failed_allocation_reserves_nothing`).
PARTIAL: the history invariant "every used block is justified" is false on the pinned code for the known
findings P8 (release routed by the node's current labels), P11 (release from the wrong one of two
overlapping ClusterCIDRs), P17b (partial occupation), P19 (stale tombstone); it is proved on the fragment of
`Safety.lean` (`Tight.lean`) and checked on every history of the correspondence stream by the judge, inside the
envelope those findings leave.
-/
namespace Ipam.C04

/-- reserve block `k` (free) and give it back: the used set is what it was, the counter too -/
theorem reserve_then_release_restores {f : Fam} {p p1 : Pool} (hp : PoolOK f p) {k : Nat} (hk : k < p.max)
    (hfree : k ∉ p.used) (h1 : p.occupy (goBlock p.geo k) = some p1) :
    ∃ p2, p1.release (goBlock p.geo k) = some p2 ∧ (∀ j, j ∈ p2.used ↔ j ∈ p.used) ∧ p2.count = p.count ∧ PoolOK f p2 :=
  Ipam.reserve_then_release_restores hp hk hfree h1

/-- **an allocation attempt that does not end in a reservation leaves every used set as it was** — whichever
entries were tried, whichever family ran out (the IPv4 block of a dual-stack entry whose IPv6 pool is
exhausted is given back): only cursors and the allocation / release counters moved.  An empty reservation is none. -/
theorem refused_attempt_reserves_nothing {a a' : Alloc} (ha : a.WF) {l : List Nat} {r : Option (List Cidr × Nat)}
    (h : a.prioritized l = (a', r)) (hr : r = none ∨ ∃ i, r = some ([], i)) : AllocEqv a a' ∧ a'.WF := by
  have att := prioritized_attempt ha l h
  rcases hr with rfl | ⟨i, rfl⟩
  · exact att
  · obtain ⟨a'', hrel, heqv, hwf⟩ := att.2.undo ha
    exact (Prod.mk.inj hrel).1 ▸ ⟨heqv, hwf⟩

/-- a failing allocation from a pool reserves nothing: only the rotating cursor of that pool moved -/
theorem failed_allocation_reserves_nothing {a a' : Alloc} {i : Nat} {f : Fam} {c : CC} {p : Pool}
    (hget : a.get? i = some c) (hp : c.pool f = some p) (hok : PoolOK f p) (h : a.allocate i f = (a', none)) :
    ∃ x, a' = a.set i (c.setPool f { p with cursor := x }) := by
  rcases allocate_exact hget hp hok with ⟨x, _, _, e⟩ | ⟨_, _, _, _, _, _, e⟩ <;> cases h.symm.trans e
  exact ⟨x, rfl⟩

/-- the node turns out to have (other) pod CIDRs: the reservation is given back, nothing is written -/
theorem node_has_cidrs_releases (s : Sys) (name : String) (cidrs : List Cidr) (i : Nat) (ws : List WOut) (n2 : NodeObj)
    (hv : getNode s.nodeView name = some n2) (hne : ¬ (!n2.junk && n2.cidrs = cidrs) = true) (hc : n2.hasCidrs = true) :
    (updateCIDRsAllocation s name cidrs i ws).1.alloc = (s.alloc.releaseAll i cidrs).1 ∧
    (updateCIDRsAllocation s name cidrs i ws).2.patches = [] := by
  rcases update_cases s name cidrs i with ⟨h, _⟩ | ⟨n, hn, ⟨hj, hs, _⟩ | ⟨_, _, e⟩ | ⟨_, h, _⟩⟩
  · rw [hv] at h; cases h
  · rw [hv] at hn; cases hn; exact absurd (by simp [hj, hs]) hne
  · rw [e]; exact ⟨rfl, rfl⟩
  · rw [hv] at hn; cases hn; rw [hc] at h; cases h

/-- the node cannot be read back: the reservation is given back -/
theorem vanished_node_releases (s : Sys) (name : String) (cidrs : List Cidr) (i : Nat) (ws : List WOut)
    (hv : getNode s.nodeView name = none) :
    (updateCIDRsAllocation s name cidrs i ws).1.alloc = (s.alloc.releaseAll i cidrs).1 ∧
    (updateCIDRsAllocation s name cidrs i ws).2.res = "err" := by
  rcases update_cases s name cidrs i with ⟨_, e⟩ | ⟨n, hn, _⟩
  · rw [e]; exact ⟨rfl, rfl⟩
  · rw [hv] at hn; cases hn

theorem update_write (s : Sys) (name : String) (cidrs : List Cidr) (i : Nat) (ws : List WOut) (n2 : NodeObj)
    (hv : getNode s.nodeView name = some n2) (hc : n2.hasCidrs = false) (hcs : cidrs ≠ []) :
    updateCIDRsAllocation s name cidrs i ws =
      if (patchLoop s.api name cidrs 3 ws []).2.1 then
        ({ s with api := (patchLoop s.api name cidrs 3 ws []).1, alloc := s.alloc.assoc i name },
         { res := "ok", patches := (patchLoop s.api name cidrs 3 ws []).2.2 })
      else
        ({ s with api := (patchLoop s.api name cidrs 3 ws []).1, alloc := (s.alloc.releaseAll i cidrs).1 },
         { res := "err", patches := (patchLoop s.api name cidrs 3 ws []).2.2, events := ["CIDRAssignmentFailed"] }) := by
  rcases update_cases s name cidrs i with ⟨h, _⟩ | ⟨n, hn, ⟨_, hs, _⟩ | ⟨_, h, _⟩ | ⟨_, _, e⟩⟩
  · rw [hv] at h; cases h
  · rw [hv] at hn; cases hn; exact absurd ((hasCidrs_false_iff.mp hc).2.symm.trans hs).symm hcs
  · rw [hv] at hn; cases hn; rw [hc] at h; cases h
  · exact e ws

/-- all three write attempts failed: the reservation is given back (the code cannot tell an ambiguous
outcome from a clean failure, see P13), the error is returned and an event recorded -/
theorem failed_write_releases (s : Sys) (name : String) (cidrs : List Cidr) (i : Nat) (ws : List WOut) (n2 : NodeObj)
    (hv : getNode s.nodeView name = some n2) (hc : n2.hasCidrs = false) (hcs : cidrs ≠ [])
    (hfail : (patchLoop s.api name cidrs 3 ws []).2.1 = false) :
    (updateCIDRsAllocation s name cidrs i ws).1.alloc = (s.alloc.releaseAll i cidrs).1 ∧
    (updateCIDRsAllocation s name cidrs i ws).2.res = "err" ∧
    (updateCIDRsAllocation s name cidrs i ws).2.events = ["CIDRAssignmentFailed"] := by
  rw [update_write s name cidrs i ws n2 hv hc hcs, hfail]
  exact ⟨rfl, rfl, rfl⟩

/-- the write succeeded: the reservation stays and the node is associated with the serving entry -/
theorem success_keeps (s : Sys) (name : String) (cidrs : List Cidr) (i : Nat) (ws : List WOut) (n2 : NodeObj)
    (hv : getNode s.nodeView name = some n2) (hc : n2.hasCidrs = false) (hcs : cidrs ≠ [])
    (hok : (patchLoop s.api name cidrs 3 ws []).2.1 = true) (c : CC) (hget : s.alloc.get? i = some c) :
    (updateCIDRsAllocation s name cidrs i ws).1.alloc = s.alloc.set i (c.addAssoc name) ∧
    (updateCIDRsAllocation s name cidrs i ws).2.res = "ok" := by
  rw [update_write s name cidrs i ws n2 hv hc hcs, hok]
  exact ⟨Alloc.assoc_of_get hget name, rfl⟩

theorem update_alloc (s : Sys) (name : String) (cidrs : List Cidr) (i : Nat) (ws : List WOut) :
    (updateCIDRsAllocation s name cidrs i ws).1.alloc = (s.alloc.releaseAll i cidrs).1 ∨
    ((updateCIDRsAllocation s name cidrs i ws).2.res = "ok" ∧
     (updateCIDRsAllocation s name cidrs i ws).1.alloc = s.alloc.assoc i name) := by
  rcases update_cases s name cidrs i with ⟨_, e⟩ | ⟨n, _, ⟨_, _, e⟩ | ⟨_, _, e⟩ | ⟨_, _, e⟩⟩ <;> rw [e ws]
  · exact Or.inl rfl
  · exact Or.inr ⟨rfl, rfl⟩
  · exact Or.inl rfl
  · split
    · exact Or.inr ⟨rfl, rfl⟩
    · exact Or.inl rfl

/-- **one node work item, seen from the reservation state**: either nothing stays reserved — every used
set is what it was before the item (refusal; node vanished; node turned out to have other pod CIDRs; all
write attempts failed) — or the item ended well (`res = "ok"`) with exactly the blocks `prioritizedCIDRs`
reserved from one entry, and then either the write succeeded and the node is associated with that entry, or
the cache shows the node already holding exactly those CIDRs (the "answer was lost" case) -/
theorem item_keeps_only_justified_reservations (s : Sys) (hwf : s.alloc.WF) (n : NodeObj) (refresh : Bool)
    (ws : List WOut) (hn : n.hasCidrs = false)
    (hr : refresh = true → (getNode s.api.nodes n.name).isSome = true) :
    AllocEqv s.alloc (allocateOrOccupy s n refresh ws).1.alloc ∨
    ∃ al cidrs i, s.alloc.prioritized (s.alloc.ordered n.labels true) = (al, some (cidrs, i)) ∧
      (allocateOrOccupy s n refresh ws).2.res = "ok" ∧
      ((allocateOrOccupy s n refresh ws).1.alloc = al ∨
       ∃ c, al.get? i = some c ∧ (allocateOrOccupy s n refresh ws).1.alloc = al.set i (c.addAssoc n.name)) := by
  rcases allocate_cases s n refresh with ⟨h, _⟩ | ⟨_, al, r, hp, ⟨hr0, e⟩ | ⟨cidrs, i, rfl, _, hupd⟩⟩
  · rw [hn] at h; cases h
  · rw [e]; exact Or.inl (refused_attempt_reserves_nothing hwf hp hr0).1
  · obtain ⟨a'', hrel, heqv, _⟩ := (prioritized_attempt hwf _ hp).2.undo hwf
    -- whatever the cache and queue look like when the second half starts, it starts from `al`
    obtain ⟨s2, hs2, e⟩ : ∃ s2 : Sys, s2.alloc = al ∧
        allocateOrOccupy s n refresh ws = updateCIDRsAllocation s2 n.name cidrs i ws := by
      rcases hupd with ⟨_, e⟩ | ⟨_, cur, _, e⟩ | ⟨hrt, hnone, _⟩
      · exact ⟨_, rfl, e ws⟩
      · exact ⟨_, rfl, e ws⟩
      · have := hr hrt; rw [hnone] at this; cases this
    rw [e]
    rcases update_alloc s2 n.name cidrs i ws with h | ⟨hok, h⟩ <;> rw [h, hs2]
    · exact Or.inl (by rw [hrel]; exact heqv)
    · refine Or.inr ⟨al, cidrs, i, hp, hok, ?_⟩
      unfold Alloc.assoc
      cases hg : al.get? i with
      | none => exact Or.inl rfl
      | some c => exact Or.inr ⟨c, rfl, rfl⟩

/-- the remaining case: the node left the cache in the middle of the item.  The item gives its reservation
back (`a₁` is equivalent to the state before the item), and what happens next is exactly the delete
handler of that cache update releasing the node's final pod CIDRs -/
theorem vanished_mid_item (s : Sys) (hwf : s.alloc.WF) (n : NodeObj) (ws : List WOut) (hn : n.hasCidrs = false)
    (hgone : getNode s.api.nodes n.name = none) :
    (∃ a₁, AllocEqv s.alloc a₁ ∧ (allocateOrOccupy s n true ws).1.alloc = a₁) ∨
    ∃ a₁, AllocEqv s.alloc a₁ ∧
      (allocateOrOccupy s n true ws).1.alloc = (releaseCIDR a₁ ((getNode s.api.graves n.name).getD n)).1 := by
  rcases allocate_cases s n true with ⟨h, _⟩ | ⟨_, al, r, hp, ⟨hr0, e⟩ | ⟨cidrs, i, rfl, _, hupd⟩⟩
  · rw [hn] at h; cases h
  · rw [e]; exact Or.inl ⟨al, (refused_attempt_reserves_nothing hwf hp hr0).1, rfl⟩
  · obtain ⟨a'', hrel, heqv, _⟩ := (prioritized_attempt hwf _ hp).2.undo hwf
    rcases hupd with ⟨h, _⟩ | ⟨_, cur, hcur, _⟩ | ⟨_, _, e⟩
    · cases h
    · rw [hgone] at hcur; cases hcur
    · rw [e, hrel]
      exact Or.inr ⟨a'', heqv, rfl⟩

end Ipam.C04
