/-!
Lock discipline (C16) and the mutex reduction (C15).

Part 1 — a Boolean checker over a call-graph table (the table is GENERATED from /repo's source by
`harness/cmd/factgen` on every run, see `Facts.lean`) and its soundness theorem, proved once for all
tables: if the checker accepts, then (a) every function reachable from an entry point without passing
through a function that holds the lock for its whole body, and that touches the shared state, holds the
lock itself; (b) no function reachable from inside a lock-holding body acquires the lock (the mutex is not
reentrant: that would block forever; there is a single lock, so no ordering cycle).

Part 2 — the reduction: operations of the form `acquire; body steps; release` over one mutex, scheduled
by any interleaving that respects the mutex, leave the shared state equal to executing the operations one
at a time in the order in which they acquired the lock.
-/
namespace Ipam.Lock

structure Fn where
  name : String
  /-- the body starts with `r.lock.Lock(); defer r.lock.Unlock()` -/
  holdsLock : Bool
  /-- the body contains any acquisition of the allocator lock (including the one above) -/
  acquires : Bool
  /-- the body reads or writes shared reservation state directly: `cidrMap`, `AssociatedNodes`,
  `Terminating`, a pool reached through the map, or calls a pool method -/
  touches : Bool
  /-- entry point: method of the public interface, informer handler closure, worker loop, spawned closure -/
  root : Bool
  /-- construction-time code that runs before any other goroutine can hold a reference -/
  exempt : Bool
  /-- the extractor met something it does not understand in this body (fail closed) -/
  unknown : Bool
  /-- static callees inside the package -/
  calls : List String
deriving Repr, DecidableEq, Inhabited

structure Graph where
  fns : List Fn
deriving Repr, DecidableEq

def Graph.lookup (G : Graph) (n : String) : Option Fn := G.fns.find? (·.name == n)

/-- one expansion step of "reachable without the lock": callees of the members that do not hold the lock -/
def expandU (G : Graph) (S : List String) : List String :=
  S ++ (S.flatMap (fun n => match G.lookup n with
    | some f => if f.holdsLock then [] else f.calls
    | none => [])).filter (fun c => !S.contains c)

def dedup (l : List String) : List String := l.foldl (fun acc x => if acc.contains x then acc else acc ++ [x]) []

def iter {α : Type} (f : α → α) : Nat → α → α
  | 0, x => x
  | k + 1, x => iter f k (f x)

def rootsU (G : Graph) : List String := (G.fns.filter (fun f => f.root && !f.exempt)).map (·.name)

def closureU (G : Graph) : List String := iter (fun S => dedup (expandU G S)) G.fns.length (dedup (rootsU G))

/-- `S` is closed under unlocked call edges -/
def closedU (G : Graph) (S : List String) : Bool :=
  S.all (fun n => match G.lookup n with
    | some f => f.holdsLock || f.calls.all (fun c => S.contains c)
    | none => true)

/-- one expansion step of "reachable from inside a lock-holding body": callees of the members -/
def expandL (G : Graph) (S : List String) : List String :=
  S ++ (S.flatMap (fun n => match G.lookup n with
    | some f => f.calls
    | none => [])).filter (fun c => !S.contains c)

def startL (G : Graph) : List String := (G.fns.filter (·.holdsLock)).flatMap (·.calls)

def closureL (G : Graph) : List String := iter (fun S => dedup (expandL G S)) G.fns.length (dedup (startL G))

def closedL (G : Graph) (S : List String) : Bool :=
  S.all (fun n => match G.lookup n with
    | some f => f.calls.all (fun c => S.contains c)
    | none => true)

def checker (G : Graph) : Bool :=
  G.fns.all (fun f => !f.unknown) &&
  -- (a) unlocked reachability
  (rootsU G).all (fun r => (closureU G).contains r) &&
  closedU G (closureU G) &&
  (closureU G).all (fun n => match G.lookup n with
    | some f => f.holdsLock || !f.touches
    | none => true) &&
  -- (b) no re-acquisition from inside the lock
  (startL G).all (fun r => (closureL G).contains r) &&
  closedL G (closureL G) &&
  (closureL G).all (fun n => match G.lookup n with
    | some f => !f.acquires
    | none => true)

/-- reachable from an entry point along call edges without passing through a lock-holding function -/
inductive ReachU (G : Graph) : String → Prop where
  | root (f : Fn) : f ∈ G.fns → f.root = true → f.exempt = false → ReachU G f.name
  | step (a b : String) (fa : Fn) : ReachU G a → G.lookup a = some fa → fa.holdsLock = false → b ∈ fa.calls → ReachU G b

/-- reachable from inside a lock-holding body -/
inductive ReachL (G : Graph) : String → Prop where
  | start (h : Fn) (b : String) : h ∈ G.fns → h.holdsLock = true → b ∈ h.calls → ReachL G b
  | step (a b : String) (fa : Fn) : ReachL G a → G.lookup a = some fa → b ∈ fa.calls → ReachL G b

theorem reachU_in_closure (G : Graph) (S : List String)
    (hroots : (rootsU G).all (fun r => S.contains r) = true) (hclosed : closedU G S = true) :
    ∀ n, ReachU G n → n ∈ S := by
  simp only [closedU, rootsU, List.all_eq_true, List.contains_iff_mem] at hroots hclosed
  intro n h
  induction h with
  | root f hf hr he => exact hroots _ (List.mem_map.mpr ⟨f, List.mem_filter.mpr ⟨hf, by simp [hr, he]⟩, rfl⟩)
  | step a b fa _ hl hh hb ih =>
    have := hclosed a ih
    simp only [hl, hh, Bool.false_or, List.all_eq_true, List.contains_iff_mem] at this
    exact this b hb

theorem reachL_in_closure (G : Graph) (S : List String)
    (hstart : (startL G).all (fun r => S.contains r) = true) (hclosed : closedL G S = true) :
    ∀ n, ReachL G n → n ∈ S := by
  simp only [closedL, startL, List.all_eq_true, List.contains_iff_mem] at hstart hclosed
  intro n h
  induction h with
  | start h b hh hl hb => exact hstart _ (List.mem_flatMap.mpr ⟨h, List.mem_filter.mpr ⟨hh, hl⟩, hb⟩)
  | step a b fa _ hl hb ih =>
    have := hclosed a ih
    simp only [hl, List.all_eq_true, List.contains_iff_mem] at this
    exact this b hb

/-- **soundness (a)**: every function that can be reached without the lock and touches the shared state
holds the lock for its whole body -/
theorem checker_sound_touch (G : Graph) (h : checker G = true) (n : String) (hr : ReachU G n) (f : Fn)
    (hl : G.lookup n = some f) (ht : f.touches = true) : f.holdsLock = true := by
  simp only [checker, Bool.and_eq_true] at h
  obtain ⟨⟨⟨⟨⟨⟨_, h1⟩, h2⟩, h3⟩, _⟩, _⟩, _⟩ := h
  have := List.all_eq_true.mp h3 n (reachU_in_closure G _ h1 h2 n hr)
  simpa [hl, ht] using this

/-- **soundness (b)**: nothing reachable from inside a lock-holding body acquires the lock again -/
theorem checker_sound_no_reacquire (G : Graph) (h : checker G = true) (n : String) (hr : ReachL G n) (f : Fn)
    (hl : G.lookup n = some f) : f.acquires = false := by
  simp only [checker, Bool.and_eq_true] at h
  have := List.all_eq_true.mp h.2 n (reachL_in_closure G _ h.1.1.2 h.1.2 n hr)
  simpa [hl] using this

theorem checker_no_unknown (G : Graph) (h : checker G = true) : ∀ f ∈ G.fns, f.unknown = false := by
  simp only [checker, Bool.and_eq_true, List.all_eq_true, Bool.not_eq_eq_eq_not, Bool.not_true] at h
  exact h.1.1.1.1.1.1

/-- what a lock-holding body calls directly is in `closureL` (cheap way into `closureL` of a concrete table) -/
theorem startL_sub_closureL {G : Graph} (h : checker G = true) {n : String} (hn : n ∈ startL G) :
    n ∈ closureL G := by
  simp only [checker, Bool.and_eq_true, List.all_eq_true, List.contains_iff_mem] at h
  exact h.1.1.2 n hn

/-! ### Evaluating the checker

Nearly all the kernel's work on `checker G` is `==` between names: `String.decEq` there re-encodes both
strings and walks the bytes, and most names share a long prefix.  The definitions ending in `By` are `checker`
and its parts word for word, with the `BEq String` instance a parameter (`eq` is used as the local instance)
and `iterFix` for `iter`; `sizeFirst` is the test that looks at the byte sizes before the bytes. -/

theorem iter_fixed {α : Type} {f : α → α} {x : α} (h : f x = x) : ∀ k, iter f k x = x
  | 0 => rfl
  | k + 1 => show iter f k (f x) = x from h.symm ▸ iter_fixed h k

/-- `iter`, stopping at the first round that changes nothing -/
def iterFix {α : Type} [DecidableEq α] (f : α → α) : Nat → α → α
  | 0, x => x
  | k + 1, x => if f x = x then x else iterFix f k (f x)

theorem iterFix_eq {α : Type} [DecidableEq α] (f : α → α) : ∀ k x, iterFix f k x = iter f k x
  | 0, _ => rfl
  | k + 1, x => by
    show (if f x = x then x else iterFix f k (f x)) = iter f k (f x)
    split
    · next h => rw [h, iter_fixed h]
    · exact iterFix_eq f k (f x)

def sizeFirst (a b : String) : Bool := a.utf8ByteSize == b.utf8ByteSize && a == b

theorem sizeFirst_eq : (⟨sizeFirst⟩ : BEq String) = instBEqOfDecidableEq := by
  congr; funext a b
  show (a.utf8ByteSize == b.utf8ByteSize && a == b) = (a == b)
  cases h : a == b
  · exact Bool.and_false _
  · rw [of_decide_eq_true h, Bool.and_true]; exact decide_eq_true rfl

section
variable (eq : BEq String)

def Graph.lookupBy (G : Graph) (n : String) : Option Fn := G.fns.find? (·.name == n)

def expandUBy (G : Graph) (S : List String) : List String :=
  S ++ (S.flatMap (fun n => match G.lookupBy eq n with
    | some f => if f.holdsLock then [] else f.calls
    | none => [])).filter (fun c => !S.contains c)

def dedupBy (l : List String) : List String := l.foldl (fun acc x => if acc.contains x then acc else acc ++ [x]) []

def closureUBy (G : Graph) : List String :=
  iterFix (fun S => dedupBy eq (expandUBy eq G S)) G.fns.length (dedupBy eq (rootsU G))

def closedUBy (G : Graph) (S : List String) : Bool :=
  S.all (fun n => match G.lookupBy eq n with
    | some f => f.holdsLock || f.calls.all (fun c => S.contains c)
    | none => true)

def expandLBy (G : Graph) (S : List String) : List String :=
  S ++ (S.flatMap (fun n => match G.lookupBy eq n with
    | some f => f.calls
    | none => [])).filter (fun c => !S.contains c)

def closureLBy (G : Graph) : List String :=
  iterFix (fun S => dedupBy eq (expandLBy eq G S)) G.fns.length (dedupBy eq (startL G))

def closedLBy (G : Graph) (S : List String) : Bool :=
  S.all (fun n => match G.lookupBy eq n with
    | some f => f.calls.all (fun c => S.contains c)
    | none => true)

def checkerBy (G : Graph) : Bool :=
  G.fns.all (fun f => !f.unknown) &&
  (rootsU G).all (fun r => (closureUBy eq G).contains r) &&
  closedUBy eq G (closureUBy eq G) &&
  (closureUBy eq G).all (fun n => match G.lookupBy eq n with
    | some f => f.holdsLock || !f.touches
    | none => true) &&
  (startL G).all (fun r => (closureLBy eq G).contains r) &&
  closedLBy eq G (closureLBy eq G) &&
  (closureLBy eq G).all (fun n => match G.lookupBy eq n with
    | some f => !f.acquires
    | none => true)

end

/-- for every table; a concrete one is then decided by `rw [checker_eq_fast]; decide +kernel` -/
theorem checker_eq_fast (G : Graph) : checker G = checkerBy ⟨sizeFirst⟩ G := by
  rw [sizeFirst_eq]
  unfold checkerBy closureUBy closureLBy
  rw [iterFix_eq, iterFix_eq]
  rfl

/-- an operation: the steps its body performs on the shared state while it holds the lock -/
structure Op (σ : Type) where
  body : List (σ → σ)

def Op.effect {σ : Type} (o : Op σ) (s : σ) : σ := o.body.foldl (fun st f => f st) s

/-- what a thread can do next -/
inductive Act where
  | acquire (op : Nat)
  | bodyStep (op : Nat)
  | release (op : Nat)
deriving DecidableEq, Repr

/-- the mutex and the progress of the operation inside it -/
structure MState (σ : Type) where
  shared : σ
  holder : Option Nat        -- operation currently holding the lock
  pc : Nat                   -- how many body steps of the holder have run
  order : List Nat           -- operations in the order they acquired the lock (completed ones)

/-- one scheduler step; `none` = the step is not enabled (the mutex would be violated) -/
def exec {σ : Type} (ops : List (Op σ)) (m : MState σ) : Act → Option (MState σ)
  | .acquire i => if m.holder.isNone ∧ i < ops.length then some { m with holder := some i, pc := 0 } else none
  | .bodyStep i =>
    match ops[i]? with
    | none => none
    | some o =>
      if m.holder = some i then
        match o.body[m.pc]? with
        | some f => some { m with shared := f m.shared, pc := m.pc + 1 }
        | none => none
      else none
  | .release i =>
    match ops[i]? with
    | none => none
    | some o => if m.holder = some i ∧ m.pc = o.body.length then some { m with holder := none, pc := 0, order := m.order ++ [i] } else none

def execAll {σ : Type} (ops : List (Op σ)) : MState σ → List Act → Option (MState σ)
  | m, [] => some m
  | m, a :: rest => match exec ops m a with
    | none => none
    | some m' => execAll ops m' rest

/-- executing operations one at a time -/
def serial {σ : Type} (ops : List (Op σ)) (s : σ) (order : List Nat) : σ :=
  order.foldl (fun st i => match ops[i]? with | some o => o.effect st | none => st) s

theorem serial_append {σ : Type} (ops : List (Op σ)) (s : σ) (l : List Nat) (i : Nat) :
    serial ops s (l ++ [i]) = (match ops[i]? with | some o => o.effect (serial ops s l) | none => serial ops s l) := by
  unfold serial; rw [List.foldl_append]; rfl

theorem serial_eq_foldl {σ : Type} (ops : List (Op σ)) (order : List Nat) (s : σ) :
    serial ops s order = (order.filterMap (ops[·]?)).foldl (fun st o => o.effect st) s := by
  rw [List.foldl_filterMap]; unfold serial
  congr; funext st i; cases ops[i]? <;> rfl

theorem filterMap_range_getElem? {α : Type} (l : List α) : (List.range l.length).filterMap (l[·]?) = l := by
  induction l with
  | nil => rfl
  | cons a t ih =>
    rw [List.length_cons, List.range_succ_eq_map, List.filterMap_cons]
    simp only [List.filterMap_map, Function.comp_def, List.getElem?_cons_zero, List.getElem?_cons_succ, ih]

/-- invariant of every mutex-respecting schedule: with the lock free, the shared state is the serial
execution of the completed operations in acquisition order; with operation `i` inside, running the rest of
its body from the shared state is what completes that serial execution by `i` -/
def Inv {σ : Type} (ops : List (Op σ)) (s0 : σ) (m : MState σ) : Prop :=
  match m.holder with
  | none => m.shared = serial ops s0 m.order
  | some i => ∀ o, ops[i]? = some o →
      (o.body.drop m.pc).foldl (fun st f => f st) m.shared = o.effect (serial ops s0 m.order)

theorem exec_inv {σ : Type} (ops : List (Op σ)) (s0 : σ) (m m' : MState σ) (a : Act)
    (hI : Inv ops s0 m) (h : exec ops m a = some m') : Inv ops s0 m' := by
  unfold Inv at hI ⊢
  cases a with
  | acquire i =>
    simp only [exec, Option.ite_none_right_eq_some, Option.some.injEq, Option.isNone_iff_eq_none] at h
    obtain ⟨⟨hn, -⟩, rfl⟩ := h
    rw [hn] at hI
    intro o _
    rw [hI]; rfl
  | bodyStep i =>
    cases ho : ops[i]? with
    | none => simp [exec, ho] at h
    | some o =>
      cases hf : o.body[m.pc]? with
      | none => simp [exec, ho, hf] at h
      | some f =>
        simp only [exec, ho, hf, Option.ite_none_right_eq_some, Option.some.injEq] at h
        obtain ⟨hh, rfl⟩ := h
        obtain ⟨hlt, rfl⟩ := List.getElem?_eq_some_iff.mp hf
        rw [hh] at hI
        simp only [hh]
        intro o' ho'
        cases ho.symm.trans ho'
        rw [← hI o ho, List.drop_eq_getElem_cons hlt]; rfl
  | release i =>
    cases ho : ops[i]? with
    | none => simp [exec, ho] at h
    | some o =>
      simp only [exec, ho, Option.ite_none_right_eq_some, Option.some.injEq] at h
      obtain ⟨⟨hh, hpc⟩, rfl⟩ := h
      rw [hh] at hI
      simp only [serial_append, ho]
      rw [← hI o ho, hpc, List.drop_length]; rfl

theorem execAll_inv {σ : Type} (ops : List (Op σ)) (s0 : σ) : ∀ (sched : List Act) (m m' : MState σ),
    Inv ops s0 m → execAll ops m sched = some m' → Inv ops s0 m'
  | [], _, _, hI, h => by cases h; exact hI
  | a :: rest, m, m', hI, h => by
    cases he : exec ops m a with
    | none => simp [execAll, he] at h
    | some m1 =>
      simp only [execAll, he] at h
      exact execAll_inv ops s0 rest m1 m' (exec_inv ops s0 m m1 a hI he) h

/-- **mutex reduction**: any schedule that respects the mutex and ends with the lock free leaves the
shared state equal to executing the operations one at a time in the order they acquired the lock -/
theorem mutex_reduction {σ : Type} (ops : List (Op σ)) (s0 : σ) (sched : List Act) (m : MState σ)
    (h : execAll ops ⟨s0, none, 0, []⟩ sched = some m) (hfree : m.holder = none) :
    m.shared = serial ops s0 m.order := by
  have := execAll_inv ops s0 sched _ m (show Inv ops s0 ⟨s0, none, 0, []⟩ from rfl) h
  unfold Inv at this
  rw [hfree] at this
  exact this

/-- two operations over a counter, interleaved requests: the result is the serial one -/
example : (execAll [⟨[(· + 1), (· * 2)]⟩, ⟨[(· + 10)]⟩] (⟨0, none, 0, []⟩ : MState Nat)
    [.acquire 1, .bodyStep 1, .release 1, .acquire 0, .bodyStep 0, .bodyStep 0, .release 0]).map (·.shared) = some 22 := by decide
/-- a schedule that violates the mutex is not a schedule -/
example : (execAll [⟨[(· + 1), (· * 2)]⟩, ⟨[(· + 10)]⟩] (⟨0, none, 0, []⟩ : MState Nat)
    [.acquire 0, .bodyStep 0, .acquire 1]).isNone = true := by decide

end Ipam.Lock
