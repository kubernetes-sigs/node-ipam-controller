import IpamVerif.Addr
/-! Lemmas for L0, used by `Props/C13.lean`: aligned numbers and Go's fixed-width shifts, about variables (no 32 / 64 /
128); CIDRs as intervals; then `goBlock`, `goIndexOf`, `goBeginEnd` in closed form, against the specifications `Geo.block`,
`Geo.idx`, `specBeginEnd`. -/
namespace Ipam

theorem pow_sub_mul_pow_sub {a b c : Nat} (hcb : c ≤ b) (hba : b ≤ a) :
    2 ^ (b - c) * 2 ^ (a - b) = 2 ^ (a - c) := by
  rw [← Nat.pow_add, Nat.add_comm, Nat.sub_add_sub_cancel hba hcb]

theorem or_eq_add {b x k : Nat} (hb : b % 2 ^ k = 0) (hx : x < 2 ^ k) : b ||| x = b + x := by
  rw [← Nat.div_mul_cancel (Nat.dvd_of_mod_eq_zero hb), ← Nat.shiftLeft_eq,
    Nat.shiftLeft_add_eq_or_of_lt hx]

theorem xor_add_eq {b x k : Nat} (hb : b % 2 ^ k = 0) (hx : x < 2 ^ k) : b ^^^ (b + x) = x := by
  -- above bit `k` the two agree, below it `b` is zero
  have hd : (b + x) / 2 ^ k = b / 2 ^ k := by
    rw [← Nat.div_add_mod b (2 ^ k), hb, Nat.add_zero, Nat.mul_add_div (Nat.two_pow_pos k), Nat.div_eq_of_lt hx,
      Nat.add_zero, Nat.mul_div_cancel_left _ (Nat.two_pow_pos k)]
  have hm : (b + x) % 2 ^ k = x := by
    rw [Nat.add_mod, hb, Nat.zero_add, Nat.mod_mod, Nat.mod_eq_of_lt hx]
  rw [← Nat.div_add_mod (b ^^^ (b + x)) (2 ^ k), Nat.xor_div_two_pow, Nat.xor_mod_two_pow, hd, hm, hb,
    Nat.xor_self, Nat.zero_xor, Nat.mul_zero, Nat.zero_add]

theorem or_halves {b y k : Nat} (hb : b % 2 ^ k = 0) (hy : y < 2 ^ k) (w : Nat) :
    (b / 2 ^ w ||| y / 2 ^ w) * 2 ^ w + (b % 2 ^ w ||| y % 2 ^ w) = b + y := by
  rw [← Nat.or_div_two_pow, ← Nat.or_mod_two_pow, Nat.div_add_mod', or_eq_add hb hy]

theorem le_xor_of_div_ne {a b k : Nat} (h : a / 2 ^ k ≠ b / 2 ^ k) : 2 ^ k ≤ a ^^^ b := by
  refine Nat.le_of_not_lt fun hlt => ?_
  have h0 := Nat.div_eq_of_lt hlt
  rw [Nat.xor_div_two_pow] at h0
  exact h (calc a / 2 ^ k = a / 2 ^ k ^^^ (a / 2 ^ k ^^^ b / 2 ^ k) := by rw [h0, Nat.xor_zero]
    _ = b / 2 ^ k := by rw [← Nat.xor_assoc, Nat.xor_self, Nat.zero_xor])

theorem div_eq_iff_mem {s q x : Nat} (hs : 0 < s) : x / s = q ↔ q * s ≤ x ∧ x < q * s + s := by
  constructor
  · rintro rfl; exact ⟨Nat.div_mul_le_self x s, Nat.lt_div_mul_add hs⟩
  · rintro ⟨h1, h2⟩; exact Nat.div_eq_of_lt_le h1 (Nat.succ_mul q s ▸ h2)

theorem mem_iff_div {addr h x : Nat} (hal : addr % 2 ^ h = 0) :
    (addr ≤ x ∧ x < addr + 2 ^ h) ↔ x / 2 ^ h = addr / 2 ^ h := by
  rw [div_eq_iff_mem (Nat.two_pow_pos h), Nat.div_mul_cancel (Nat.dvd_of_mod_eq_zero hal)]

theorem mod_add_le {x h k : Nat} (hx : x % 2 ^ h = 0) (hk : h ≤ k) : x % 2 ^ k + 2 ^ h ≤ 2 ^ k := by
  obtain ⟨m, rfl⟩ := Nat.dvd_of_mod_eq_zero hx
  rw [← Nat.add_sub_cancel' hk, Nat.pow_add, Nat.mul_mod_mul_left, ← Nat.mul_succ]
  exact Nat.mul_le_mul_left _ (Nat.mod_lt _ (Nat.two_pow_pos _))

theorem aligned_sub_or_disjoint {x h y k : Nat} (hx : x % 2 ^ h = 0) (hy : y % 2 ^ k = 0) (hk : h ≤ k) :
    (y ≤ x ∧ x + 2 ^ h ≤ y + 2 ^ k) ∨ x + 2 ^ h ≤ y ∨ y + 2 ^ k ≤ x := by
  -- `x + 2^h` stays within the `2^k`-aligned interval `x` lies in; compare that one with `[y, y + 2^k)`
  have hxd := Nat.div_add_mod x (2 ^ k)
  have hu : x + 2 ^ h ≤ 2 ^ k * (x / 2 ^ k + 1) := by
    have := Nat.add_le_add_left (mod_add_le hx hk) (2 ^ k * (x / 2 ^ k))
    rwa [← Nat.add_assoc, hxd] at this
  obtain ⟨p, rfl⟩ := Nat.dvd_of_mod_eq_zero hy
  rcases Nat.lt_trichotomy (x / 2 ^ k) p with hlt | rfl | hgt
  · exact .inr (.inl (Nat.le_trans hu (Nat.mul_le_mul_left _ hlt)))
  · exact .inl ⟨Nat.le.intro hxd, Nat.mul_succ .. ▸ hu⟩
  · exact .inr (.inr (Nat.le_trans (Nat.mul_succ .. ▸ Nat.mul_le_mul_left _ hgt) (Nat.le.intro hxd)))

/-! ### Go's fixed-width shifts -/

theorem shl_mod (W x s : Nat) : (if s < W then (x <<< s) % 2 ^ W else 0) = x * 2 ^ s % 2 ^ W := by
  split
  · rw [Nat.shiftLeft_eq]
  · rename_i h
    exact (Nat.mod_eq_zero_of_dvd (Nat.dvd_mul_left_of_dvd (Nat.pow_dvd_pow 2 (Nat.le_of_not_lt h)) x)).symm

theorem shl32_eq (x s : Nat) : shl32 x s = x * 2 ^ s % 2 ^ 32 := shl_mod 32 x s
theorem shl64_eq (x s : Nat) : shl64 x s = x * 2 ^ s % 2 ^ 64 := shl_mod 64 x s

theorem shr64_eq {i : Nat} (hi : i < 2 ^ 64) (s : Nat) : shr64 i s = i / 2 ^ s := by
  unfold shr64
  split
  · exact Nat.shiftRight_eq_div_pow _ _
  · rename_i h
    exact (Nat.div_eq_of_lt (Nat.lt_of_lt_of_le hi (Nat.pow_le_pow_right (by decide) (Nat.le_of_not_lt h)))).symm

theorem bitLen_lt (i : Nat) : i < 2 ^ bitLen i := by
  unfold bitLen
  split
  · rename_i h; rw [h]; exact Nat.two_pow_pos 0
  · exact Nat.lt_log2_self

/-- Go or-s the shifted index in only when it has bits up there; otherwise they are zero anyway -/
theorem or_shr64_of_bitLen {h i t : Nat} (hi : i < 2 ^ 64) :
    (if bitLen i > t then h ||| shr64 i t else h) = h ||| i / 2 ^ t := by
  split
  · rw [shr64_eq hi]
  · rename_i hb
    rw [Nat.div_eq_of_lt (Nat.lt_of_lt_of_le (bitLen_lt i) (Nat.pow_le_pow_right (by decide) (Nat.le_of_not_lt hb))),
      Nat.or_zero]

theorem maskTo_div (W len x : Nat) : maskTo W len x / 2 ^ (W - len) = x / 2 ^ (W - len) := by
  unfold maskTo
  rw [Nat.shiftRight_eq_div_pow, Nat.shiftLeft_eq]
  exact Nat.mul_div_cancel _ (Nat.two_pow_pos _)

theorem maskTo_mod (W len x : Nat) : maskTo W len x % 2 ^ (W - len) = 0 := by
  unfold maskTo
  rw [Nat.shiftLeft_eq]
  exact Nat.mul_mod_left _ _

theorem maskTo_eq (W len x : Nat) : maskTo W len x = x - x % 2 ^ (W - len) := by
  have h := Nat.div_add_mod (maskTo W len x) (2 ^ (W - len))
  rw [maskTo_mod, maskTo_div, Nat.add_zero] at h
  exact Nat.eq_sub_of_add_eq (h ▸ Nat.div_add_mod x _)

theorem maskTo_le (W len x : Nat) : maskTo W len x ≤ x := by
  rw [maskTo_eq]; exact Nat.sub_le _ _

theorem Cidr.size_pos (c : Cidr) : 0 < c.size := Nat.two_pow_pos _

theorem Cidr.mem_addr (c : Cidr) : c.Mem c.addr := ⟨Nat.le_refl _, Nat.lt_add_of_pos_right c.size_pos⟩

theorem Cidr.disjoint_comm {a b : Cidr} : a.Disjoint b ↔ b.Disjoint a := Or.comm

theorem Cidr.not_disjoint_of_mem {a b : Cidr} {x : Nat} (ha : a.Mem x) (hb : b.Mem x) : ¬ a.Disjoint b := by
  rintro (h | h)
  · exact Nat.lt_irrefl x (Nat.lt_of_lt_of_le ha.2 (Nat.le_trans h hb.1))
  · exact Nat.lt_irrefl x (Nat.lt_of_lt_of_le hb.2 (Nat.le_trans h ha.1))

theorem Cidr.Sub.mem {a b : Cidr} (h : a.Sub b) {x : Nat} (hx : a.Mem x) : b.Mem x :=
  ⟨Nat.le_trans h.1 hx.1, Nat.lt_of_lt_of_le hx.2 h.2⟩

theorem Cidr.Sub.mem_addr {a b : Cidr} (h : a.Sub b) : b.Mem a.addr := h.mem a.mem_addr

theorem Cidr.Disjoint.mono_left {a b c : Cidr} (h : a.Disjoint b) (hc : c.Sub a) : c.Disjoint b :=
  h.imp (Nat.le_trans hc.2) (Nat.le_trans · hc.1)

theorem Cidr.disjoint_of_sub {a b c : Cidr} (h : a.Sub b) (hd : c.Disjoint b) : a.Disjoint c :=
  (Cidr.disjoint_comm.mp hd).mono_left h

theorem Cidr.not_disjoint_self (a : Cidr) : ¬ a.Disjoint a := Cidr.not_disjoint_of_mem a.mem_addr a.mem_addr

theorem Cidr.sub_or_disjoint {a b : Cidr} (ha : a.WF) (hb : b.WF) (hf : a.fam = b.fam) (hlen : b.len ≤ a.len) :
    a.Sub b ∨ a.Disjoint b :=
  aligned_sub_or_disjoint ha.2.2 hb.2.2 (by unfold Cidr.hostBits Cidr.W; rw [hf]; exact Nat.sub_le_sub_left hlen _)

theorem Cidr.mem_iff_div {c : Cidr} (hc : c.WF) (x : Nat) :
    c.Mem x ↔ x / 2 ^ c.hostBits = c.addr / 2 ^ c.hostBits := Ipam.mem_iff_div hc.2.2

theorem goContains_iff {c : Cidr} (hc : c.WF) (x : Nat) : goContains c.W c x = true ↔ c.Mem x := by
  unfold goContains
  rw [Cidr.mem_iff_div hc, Nat.shiftRight_eq_div_pow, Nat.shiftRight_eq_div_pow, beq_iff_eq]
  rfl

theorem Cidr.mem_maskTo_iff {c : Cidr} (hc : c.WF) (x : Nat) : c.Mem (maskTo c.W c.len x) ↔ c.Mem x := by
  rw [Cidr.mem_iff_div hc, Cidr.mem_iff_div hc]
  unfold Cidr.hostBits
  rw [maskTo_div]

/-- the test `a.Contains(b.IP.Mask(a.Mask)) || b.Contains(a.IP.Mask(b.Mask))` is interval intersection -/
theorem goContains_or_iff {a b : Cidr} (ha : a.WF) (hb : b.WF) (hf : a.fam = b.fam) :
    (goContains a.W a (maskTo a.W a.len b.addr) || goContains a.W b (maskTo a.W b.len a.addr)) = true ↔
      ¬ a.Disjoint b := by
  have hW : a.W = b.W := congrArg Fam.W hf
  rw [Bool.or_eq_true, goContains_iff ha, hW, goContains_iff hb, ← hW, Cidr.mem_maskTo_iff ha, hW,
    Cidr.mem_maskTo_iff hb]
  constructor
  · rintro (h | h)
    · exact Cidr.not_disjoint_of_mem h b.mem_addr
    · exact Cidr.not_disjoint_of_mem a.mem_addr h
  · intro hnd
    -- the finer of the two lies inside the other, its address with it
    rcases Nat.le_total a.len b.len with hl | hl
    · exact .inl ((Cidr.sub_or_disjoint hb ha hf.symm hl).resolve_right (mt Cidr.disjoint_comm.mp hnd)).mem_addr
    · exact .inr ((Cidr.sub_or_disjoint ha hb hf hl).resolve_right hnd).mem_addr

theorem goOverlap_iff {a b : Cidr} (ha : a.WF) (hb : b.WF) (hf : a.fam = b.fam) :
    goOverlap a b = true ↔ ¬ a.Disjoint b := by
  unfold goOverlap
  rw [hf, beq_self_eq_true, Bool.true_and]
  exact goContains_or_iff ha hb hf

theorem goOverlap_self {c : Cidr} (hc : c.WF) : goOverlap c c = true :=
  (goOverlap_iff hc hc rfl).mpr c.not_disjoint_self

theorem goOverlap_diff_fam {a b : Cidr} (hf : a.fam ≠ b.fam) : goOverlap a b = false := by
  unfold goOverlap; rw [beq_false_of_ne hf, Bool.false_and]

theorem Cidr.add_size_le {c : Cidr} (hc : c.WF) : c.addr + c.size ≤ 2 ^ c.W := by
  have := mod_add_le hc.2.2 (Nat.sub_le c.W c.len)
  rwa [Nat.mod_eq_of_lt hc.2.1] at this

/-! ### indexToCIDRBlock -/

theorem goBlockV4_eq {g : Geo} {i : Nat} (hal : g.base % 2 ^ (32 - g.c) = 0)
    (hy : i * 2 ^ (32 - g.n) < 2 ^ (32 - g.c)) : goBlockV4 g i = g.base + i * 2 ^ (32 - g.n) := by
  unfold goBlockV4
  rw [shl32_eq, Nat.mod_mul_mod,
    Nat.mod_eq_of_lt (Nat.lt_of_lt_of_le hy (Nat.pow_le_pow_right (by decide) (Nat.sub_le 32 g.c)))]
  exact or_eq_add hal hy

/-- In each of its three branches Go builds the two halves of `i * 2^(128 - n)` and or-s them onto those
of the base. -/
theorem goBlockV6_halves {g : Geo} {i : Nat} (hn : g.n ≤ 128) (hy : i * 2 ^ (128 - g.n) < 2 ^ (128 - g.c))
    (hi : i < 2 ^ 64) :
    goBlockV6 g i = (g.base / 2 ^ 64 ||| i * 2 ^ (128 - g.n) / 2 ^ 64,
      g.base % 2 ^ 64 ||| i * 2 ^ (128 - g.n) % 2 ^ 64) := by
  unfold goBlockV6
  dsimp only
  by_cases h : g.n ≤ 64
  · -- left half only: the shifted index is `(i * 2^(64 - n)) * 2^64`
    have e : 2 ^ (64 - g.n) * 2 ^ 64 = 2 ^ (128 - g.n) := pow_sub_mul_pow_sub (a := 128) h (by decide)
    have hx : i * 2 ^ (64 - g.n) < 2 ^ 64 := by
      apply Nat.lt_of_mul_lt_mul_right (a := 2 ^ 64)
      rw [Nat.mul_assoc, e]
      exact Nat.lt_of_lt_of_le hy (Nat.pow_le_pow_right (by decide) (Nat.sub_le 128 g.c))
    rw [if_pos h, ← e, ← Nat.mul_assoc, Nat.mul_div_cancel _ (Nat.two_pow_pos 64), Nat.mul_mod_left, Nat.or_zero,
      shl64_eq, Nat.mod_eq_of_lt hx]
  · rw [if_neg h, shl64_eq]
    by_cases hc : g.c < 64
    · -- straddling: index bits in both halves; `2^64` is written `2^(n - 64) * 2^(128 - n)` throughout
      rw [if_pos hc, or_shr64_of_bitLen hi, ← pow_sub_mul_pow_sub (Nat.le_of_not_le h) hn,
        Nat.mul_div_mul_right _ _ (Nat.two_pow_pos _)]
    · -- right half only
      rw [if_neg hc, Nat.div_eq_of_lt (Nat.lt_of_lt_of_le hy (Nat.pow_le_pow_right (by decide)
        (by omega : 128 - g.c ≤ 64))), Nat.or_zero]

theorem goBlockV6_eq {g : Geo} {i : Nat} (hn : g.n ≤ 128) (hal : g.base % 2 ^ (128 - g.c) = 0)
    (hy : i * 2 ^ (128 - g.n) < 2 ^ (128 - g.c)) (hi : i < 2 ^ 64) :
    (goBlockV6 g i).1 * 2 ^ 64 + (goBlockV6 g i).2 = g.base + i * 2 ^ (128 - g.n) := by
  rw [goBlockV6_halves hn hy hi]
  exact or_halves hal hy 64

theorem Geo.blockSize_eq (g : Geo) : g.blockSize = 2 ^ (g.W - g.n) := rfl
theorem Geo.blockSize_pos (g : Geo) : 0 < g.blockSize := Nat.two_pow_pos _
theorem Geo.max_pos (g : Geo) : 0 < g.max := Nat.two_pow_pos _

theorem Geo.max_mul_blockSize {g : Geo} (hg : g.Valid) : g.max * g.blockSize = 2 ^ (g.W - g.c) :=
  pow_sub_mul_pow_sub hg.1 hg.2.1

theorem Geo.block_end_le {g : Geo} (hg : g.Valid) {i : Nat} (hi : i < g.max) :
    i * g.blockSize + g.blockSize ≤ 2 ^ (g.W - g.c) := by
  rw [← Geo.max_mul_blockSize hg, ← Nat.succ_mul]
  exact Nat.mul_le_mul_right _ hi

/-- `NewMultiCIDRSet` gives an IPv6 range at most 16 index bits -/
theorem Geo.max_le_two_pow_64 {g : Geo} (hg : g.Valid) (hf : g.fam = .v6) : g.max ≤ 2 ^ 64 :=
  Nat.pow_le_pow_right (by decide) (Nat.le_trans (hg.2.2.2.2 hf) (by decide))

theorem goBlockAddr_eq {g : Geo} (hg : g.Valid) {i : Nat} (hi : i < g.max) :
    goBlockAddr g i = g.base + i * g.blockSize := by
  have hy := Nat.lt_of_lt_of_le (Nat.lt_add_of_pos_right g.blockSize_pos) (Geo.block_end_le hg hi)
  obtain ⟨f, b, c, n⟩ := g
  cases f with
  | v4 => exact goBlockV4_eq hg.2.2.2.1 hy
  | v6 => exact goBlockV6_eq hg.2.1 hg.2.2.2.1 hy (Nat.lt_of_lt_of_le hi (Geo.max_le_two_pow_64 hg rfl))

theorem goBlock_eq {g : Geo} (hg : g.Valid) {i : Nat} (hi : i < g.max) : goBlock g i = g.block i := by
  unfold goBlock Geo.block; rw [goBlockAddr_eq hg hi]

theorem Geo.range_WF {g : Geo} (hg : g.Valid) : g.range.WF := ⟨Nat.le_trans hg.1 hg.2.1, hg.2.2.1, hg.2.2.2.1⟩

theorem Geo.base_mod_blockSize {g : Geo} (hg : g.Valid) : g.base % g.blockSize = 0 :=
  Nat.mod_eq_zero_of_dvd (Nat.dvd_trans (Nat.pow_dvd_pow 2 (Nat.sub_le_sub_left hg.1 _))
    (Nat.dvd_of_mod_eq_zero hg.2.2.2.1))

theorem Geo.block_sub_range {g : Geo} (hg : g.Valid) {k : Nat} (hk : k < g.max) : (g.block k).Sub g.range :=
  ⟨Nat.le_add_right _ _, Nat.add_assoc .. ▸ Nat.add_le_add_left (Geo.block_end_le hg hk) _⟩

theorem Geo.block_mem_range {g : Geo} (hg : g.Valid) {k : Nat} (hk : k < g.max) {x : Nat}
    (hx : (g.block k).Mem x) : g.range.Mem x := (Geo.block_sub_range hg hk).mem hx

theorem Geo.block_WF {g : Geo} (hg : g.Valid) {k : Nat} (hk : k < g.max) : (g.block k).WF := by
  refine ⟨hg.2.1, ?_, ?_⟩
  · exact Nat.lt_of_lt_of_le (Nat.lt_add_of_pos_right g.blockSize_pos)
      (Nat.le_trans (Geo.block_sub_range hg hk).2 (Cidr.add_size_le (Geo.range_WF hg)))
  · exact (Nat.add_mul_mod_self_right ..).trans (Geo.base_mod_blockSize hg)

theorem Geo.block_disjoint (g : Geo) {i j : Nat} (h : i ≠ j) : (g.block i).Disjoint (g.block j) := by
  have key {i j : Nat} (h : i < j) : (g.block i).addr + (g.block i).size ≤ (g.block j).addr :=
    Nat.add_assoc .. ▸ Nat.add_le_add_left (Nat.succ_mul .. ▸ Nat.mul_le_mul_right g.blockSize h) _
  exact (Nat.lt_or_gt_of_ne h).imp key key

/-- the block number of an address of the range -/
def Geo.idx (g : Geo) (x : Nat) : Nat := (x - g.base) / g.blockSize

theorem Geo.le_idx_iff {g : Geo} {k a : Nat} (ha : g.base ≤ a) : k ≤ g.idx a ↔ g.base + k * g.blockSize ≤ a := by
  unfold Geo.idx; rw [Nat.le_div_iff_mul_le g.blockSize_pos, Nat.le_sub_iff_add_le' ha]

theorem Geo.idx_lt_iff {g : Geo} {k a : Nat} (ha : g.base ≤ a) : g.idx a < k ↔ a < g.base + k * g.blockSize := by
  unfold Geo.idx; rw [Nat.div_lt_iff_lt_mul g.blockSize_pos, Nat.sub_lt_iff_lt_add' ha]

theorem Geo.idx_lt {g : Geo} (hg : g.Valid) {x : Nat} (hx : g.range.Mem x) : g.idx x < g.max :=
  (Geo.idx_lt_iff hx.1).mpr (Geo.max_mul_blockSize hg ▸ hx.2)

theorem Geo.mem_block_iff {g : Geo} {i a : Nat} : (g.block i).Mem a ↔ g.base ≤ a ∧ g.idx a = i := by
  constructor
  · intro h
    have ha := Nat.le_trans (Nat.le_add_right _ _) h.1
    exact ⟨ha, Nat.le_antisymm (Nat.le_of_lt_succ ((Geo.idx_lt_iff ha).mpr
      (Nat.succ_mul .. ▸ Nat.add_assoc .. ▸ h.2))) ((Geo.le_idx_iff ha).mpr h.1)⟩
  · rintro ⟨ha, rfl⟩
    exact ⟨(Geo.le_idx_iff ha).mp (Nat.le_refl _), Nat.add_assoc .. ▸ Nat.succ_mul .. ▸
      (Geo.idx_lt_iff ha).mp (Nat.lt_succ_self _)⟩

/-! ### getIndexForIP -/

/-- `!x.IsUint64() || x.Uint64() >= m`, for `m` that fits in 64 bits -/
theorem ite_uint64 {x m : Nat} (hm : m ≤ 2 ^ 64) :
    (if x ≥ 2 ^ 64 ∨ x % 2 ^ 64 ≥ m then none else some (x % 2 ^ 64)) = if m ≤ x then none else some x := by
  by_cases h : m ≤ x
  · rw [if_pos h, if_pos]
    by_cases hx : x < 2 ^ 64
    · exact Or.inr ((Nat.mod_eq_of_lt hx).symm ▸ h)
    · exact Or.inl (Nat.le_of_not_lt hx)
  · have hx := Nat.lt_of_lt_of_le (Nat.lt_of_not_le h) hm
    rw [if_neg h, Nat.mod_eq_of_lt hx, if_neg (not_or.mpr ⟨Nat.not_le.mpr hx, h⟩)]

/-- both families compute `(base ^^^ a) / blockSize` and reject it when it is no block number -/
theorem goIndexOf_eq_xor {g : Geo} (hg : g.Valid) (hmax : g.max < 2 ^ 32 ∨ g.fam = .v6) (a : Nat) :
    goIndexOf g a =
      if g.max ≤ (g.base ^^^ a) / g.blockSize then none else some ((g.base ^^^ a) / g.blockSize) := by
  obtain ⟨f, b, c, n⟩ := g
  unfold goIndexOf
  cases f with
  | v4 =>
    dsimp only
    rw [Nat.shiftRight_eq_div_pow, Nat.mod_eq_of_lt (hmax.resolve_right nofun)]
    rfl
  | v6 =>
    dsimp only
    rw [Nat.shiftRight_eq_div_pow]
    exact ite_uint64 (Geo.max_le_two_pow_64 hg rfl)

theorem goIndexOf_of_mem {g : Geo} (hg : g.Valid) (hmax : g.max < 2 ^ 32 ∨ g.fam = .v6) {a : Nat}
    (ha : g.range.Mem a) : goIndexOf g a = some (g.idx a) := by
  have hlt := Geo.idx_lt hg ha
  -- a = base + d with d below the trailing zeros of base
  obtain ⟨d, rfl⟩ : ∃ d, a = g.base + d := Nat.exists_eq_add_of_le ha.1
  have hd : d < 2 ^ (g.W - g.c) := Nat.lt_of_add_lt_add_left ha.2
  unfold Geo.idx at hlt ⊢
  rw [Nat.add_sub_cancel_left] at hlt ⊢
  rw [goIndexOf_eq_xor hg hmax, xor_add_eq hg.2.2.2.1 hd, if_neg (Nat.not_le.mpr hlt)]

theorem goIndexOf_outside {g : Geo} (hg : g.Valid) (hmax : g.max < 2 ^ 32 ∨ g.fam = .v6) {a : Nat}
    (hout : ¬ g.range.Mem a) : goIndexOf g a = none := by
  rw [goIndexOf_eq_xor hg hmax, if_pos]
  rw [Nat.le_div_iff_mul_le g.blockSize_pos, Geo.max_mul_blockSize hg]
  exact le_xor_of_div_ne fun h => hout ((mem_iff_div hg.2.2.2.1).mpr h.symm)

theorem goIndexOf_mask {g : Geo} (hg : g.Valid) (hmax : g.max < 2 ^ 32 ∨ g.fam = .v6) {x : Nat}
    (hx : g.range.Mem x) : goIndexOf g (maskTo g.W g.n x) = some (g.idx x) := by
  -- masking keeps the address within its block
  have hk := Geo.idx_lt hg hx
  have hm : (g.block (g.idx x)).Mem (maskTo g.W g.n x) :=
    (Cidr.mem_maskTo_iff (Geo.block_WF hg hk) x).mpr (Geo.mem_block_iff.mpr ⟨hx.1, rfl⟩)
  rw [goIndexOf_of_mem hg hmax (Geo.block_mem_range hg hk hm), (Geo.mem_block_iff.mp hm).2]

/-! ### getBeginningAndEndIndices -/

/-- the specification of `getBeginningAndEndIndices` -/
def specBeginEnd (g : Geo) (cd : Cidr) : Option (Nat × Nat) :=
  if cd.fam ≠ g.fam ∨ cd.Disjoint g.range then none
  else if cd.len ≤ g.c then some (0, g.max - 1)
  else some (g.idx cd.addr, g.idx (cd.addr + (cd.size - 1)))

theorem goBeginEnd_eq_spec {g : Geo} (hg : g.Valid) (hmax : g.max < 2 ^ 32 ∨ g.fam = .v6)
    {cd : Cidr} (hcd : cd.WF) : goBeginEnd g cd = specBeginEnd g cd := by
  unfold goBeginEnd specBeginEnd
  dsimp only
  by_cases hf : cd.fam = g.fam
  · have hr := Geo.range_WF hg
    -- the first test is Go's intersection test, negated
    have hov : (!goContains g.W g.range (maskTo g.W g.c cd.addr) && !goContains g.W cd (maskTo g.W cd.len g.base))
        = true ↔ cd.Disjoint g.range := by
      rw [← Bool.not_or, Bool.not_eq_true', ← Bool.not_eq_true, Cidr.disjoint_comm]
      exact (not_congr (goContains_or_iff hr hcd hf.symm)).trans Decidable.not_not
    rw [if_neg (not_not_intro hf)]
    by_cases hd : cd.Disjoint g.range
    · rw [if_pos (hov.mpr hd), if_pos (.inr hd)]
    · rw [if_neg (mt hov.mp hd), if_neg (not_or.mpr ⟨not_not_intro hf, hd⟩)]
      by_cases hlen : cd.len ≤ g.c
      · rw [if_neg (Nat.not_lt.mpr hlen), if_pos hlen]
      · -- `cd` lies inside the range, so both its ends have an index
        have hsub := (Cidr.sub_or_disjoint hcd hr hf (Nat.le_of_not_le hlen)).resolve_right hd
        have hlt := Nat.sub_one_lt (Nat.ne_of_gt cd.size_pos)
        have hW : cd.W = g.W := congrArg Fam.W hf
        have hlast : cd.addr ||| (2 ^ (g.W - cd.len) - 1) = cd.addr + (cd.size - 1) := by
          rw [← hW]; exact or_eq_add hcd.2.2 hlt
        rw [if_pos (Nat.lt_of_not_le hlen), if_neg hlen, goIndexOf_mask hg hmax hsub.mem_addr, hlast,
          goIndexOf_mask hg hmax (hsub.mem ⟨Nat.le_add_right _ _, Nat.add_lt_add_left hlt _⟩)]
  · rw [if_pos hf, if_pos (.inl hf)]

theorem specBeginEnd_eq_none {g : Geo} {cd : Cidr} :
    specBeginEnd g cd = none ↔ (cd.fam ≠ g.fam ∨ cd.Disjoint g.range) := by
  unfold specBeginEnd
  by_cases hc : cd.fam ≠ g.fam ∨ cd.Disjoint g.range
  · rw [if_pos hc]
    exact iff_of_true rfl hc
  · rw [if_neg hc]
    refine iff_of_false ?_ hc
    split <;> nofun

/-- meaning of the index range: exactly the blocks that intersect the CIDR -/
theorem specBeginEnd_some {g : Geo} (hg : g.Valid) {cd : Cidr} (hcd : cd.WF) {b e : Nat}
    (h : specBeginEnd g cd = some (b, e)) :
    cd.fam = g.fam ∧ b ≤ e ∧ e < g.max ∧
    ∀ k, k < g.max → ((b ≤ k ∧ k ≤ e) ↔ ¬ (g.block k).Disjoint cd) := by
  unfold specBeginEnd at h
  by_cases h0 : cd.fam ≠ g.fam ∨ cd.Disjoint g.range
  · rw [if_pos h0] at h; cases h
  rw [if_neg h0] at h
  have hf : cd.fam = g.fam := Decidable.not_not.mp (not_or.mp h0).1
  have hnd := (not_or.mp h0).2
  have hr := Geo.range_WF hg
  refine ⟨hf, ?_⟩
  by_cases hlen : cd.len ≤ g.c
  · -- the CIDR contains the range, hence every block
    rw [if_pos hlen] at h
    cases h
    have hsub := (Cidr.sub_or_disjoint hr hcd hf.symm hlen).resolve_right (mt Cidr.disjoint_comm.mp hnd)
    exact ⟨Nat.zero_le _, Nat.sub_one_lt (Nat.ne_of_gt g.max_pos), fun k hk =>
      ⟨fun _ => Cidr.not_disjoint_of_mem (g.block k).mem_addr
        (hsub.mem (Geo.block_mem_range hg hk (g.block k).mem_addr)),
       fun _ => ⟨Nat.zero_le _, Nat.le_sub_one_of_lt hk⟩⟩⟩
  · -- the CIDR lies inside the range: a block meets it iff it starts before its end and ends after its start
    rw [if_neg hlen] at h
    cases h
    have hsub := (Cidr.sub_or_disjoint hcd hr hf (Nat.le_of_not_le hlen)).resolve_right hnd
    have hb1 : g.base ≤ cd.addr := hsub.1
    have hb2 : g.base ≤ cd.addr + (cd.size - 1) := Nat.le_trans hb1 (Nat.le_add_right _ _)
    have hlt := Nat.sub_one_lt (Nat.ne_of_gt cd.size_pos)
    refine ⟨Nat.div_le_div_right (Nat.sub_le_sub_right (Nat.le_add_right _ _) _),
      Geo.idx_lt hg (hsub.mem ⟨Nat.le_add_right _ _, Nat.add_lt_add_left hlt _⟩), fun k _ => ?_⟩
    have e1 : g.base + (k + 1) * g.blockSize = (g.block k).addr + (g.block k).size := by
      rw [Nat.succ_mul, ← Nat.add_assoc]; rfl
    have e2 : cd.addr + (cd.size - 1) + 1 = cd.addr + cd.size := by
      rw [Nat.add_assoc, Nat.sub_add_cancel cd.size_pos]
    rw [← Nat.lt_succ_iff, Geo.idx_lt_iff hb1, Geo.le_idx_iff hb2, e1, ← Nat.lt_succ_iff, Nat.succ_eq_add_one, e2,
      Cidr.Disjoint, not_or, Nat.not_le, Nat.not_le]
    rfl

/-! ### NewMultiCIDRSet -/

theorem newGeo_eq_some {r : Cidr} {hb : Int} {g : Geo} (h : newGeo r hb = some g) :
    0 ≤ hb ∧ (r.len : Int) ≤ (r.W : Int) - hb ∧ (r.fam = .v6 → (r.W : Int) - hb - (r.len : Int) ≤ 16) ∧
    g = ⟨r.fam, r.addr, r.len, ((r.W : Int) - hb).toNat⟩ := by
  unfold newGeo at h
  dsimp only at h
  by_cases h1 : hb < 0 ∨ (r.W : Int) - hb < (r.len : Int)
  · rw [if_pos h1] at h; cases h
  rw [if_neg h1] at h
  by_cases h2 : r.fam = .v6 ∧ (r.W : Int) - hb - (r.len : Int) > 16
  · rw [if_pos h2] at h; cases h
  rw [if_neg h2] at h
  cases h
  exact ⟨Int.not_lt.mp (not_or.mp h1).1, Int.not_lt.mp (not_or.mp h1).2, fun hf => Int.not_lt.mp (not_and.mp h2 hf), rfl⟩

end Ipam
