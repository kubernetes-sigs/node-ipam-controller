import IpamVerif.StepLemmas
/-!
# Nothing is forgotten (the safety half of C11)

`Pend s`: (1) a cached node that is not being deleted and has no pod CIDRs is in the node queue — unless the API
object already has pod CIDRs or is gone (then a notification that will queue or drop it is still to be delivered);
(2) a cached ClusterCIDR that is what the API has and still needs the controller's finalizer added or removed is in
the ClusterCIDR queue; (3) cached ClusterCIDRs are never newer than the API objects.  Preserved by *every* event —
restarts, failed and lost writes, label edits, foreign writers — except the re-creation of an object under a name the
cache still holds (`Frag2`; findings P21 / P15).  Consequence (`quiescent_nodes_served`, `quiescent_ccs_done`): whenever
the queues are empty and the caches are current, every node that is not being deleted has pod CIDRs and every
ClusterCIDR has been dealt with; work is never dropped on the way.  That queued work *is* eventually processed is the
work queue's and the scheduler's contract (trusted, DESIGN §4).
-/
namespace Ipam.Pending

/-- a cached node that is not being deleted and has no pod CIDRs is queued for (re)processing — unless the API object
already has pod CIDRs or is gone, i.e. a notification that will queue it (or drop it) is still to be delivered -/
def NodePending (s : Sys) : Prop :=
  ∀ x v, getNode s.nodeView x = some v → v.deleting = false → v.hasCidrs = false →
    x ∈ s.nodeQ ∨ (∃ y, getNode s.api.nodes x = some y ∧ y.hasCidrs = true) ∨ getNode s.api.nodes x = none

/-- a cached ClusterCIDR that needs the controller's finalizer added, or is being deleted and still carries it, is
queued — unless the API object differs from the cached one (a notification is still to be delivered) -/
def CCPending (s : Sys) : Prop :=
  ∀ x o, getCC s.ccView x = some o → getCC s.api.ccs x = some o → o.Owed → x ∈ s.ccQ

def RvMono (s : Sys) : Prop :=
  ∀ x ov oa, getCC s.ccView x = some ov → getCC s.api.ccs x = some oa → ov.rv ≤ oa.rv

structure Pend (s : Sys) : Prop where
  node : NodePending s
  cc : CCPending s
  rv : RvMono s

/-- the only restriction: an object is not re-created under a name the cache still holds (the informer would report
an update then, not the deletion — findings P21, P15) -/
def Frag2 (s : Sys) : Ev → Prop
  | .nodeAdd n => getNode s.nodeView n.name = none
  | .ccAdd name _ => getCC s.ccView name = none
  | _ => True

theorem mem_putNode {l : List NodeObj} {o x : NodeObj} (h : x ∈ putNode l o) : x = o ∨ (x ∈ l ∧ x.name ≠ o.name) :=
  Ipam.mem_putNode h

/-! ### the API changes under the caches -/

/-- a served node stays served (`Evolves`), a deleted one counts as gone, and a new one is not in the cache (`Frag2`) -/
theorem nodePending_nodes {s s' : Sys} (h : NodePending s) {e : Ev} (hs : NodesStep e s.api.nodes s'.api.nodes)
    (hf : Frag2 s e) (hv : s'.nodeView = s.nodeView) (hq : s'.nodeQ = s.nodeQ) : NodePending s' := by
  intro x v hxv hd hnc
  rw [hv] at hxv; rw [hq]
  have old := h x v hxv hd hnc
  rcases hs.get x with hsame | ⟨n, rfl, rfl, _, _⟩ | ⟨_, hgone⟩ | ⟨y, y', hy, hy', hev⟩
  · rw [hsame]; exact old
  · rw [show getNode s.nodeView n.name = none from hf] at hxv; cases hxv
  · exact Or.inr (Or.inr hgone)
  · rcases old with hq | ⟨z, hz, hzc⟩ | hnone
    · exact Or.inl hq
    · rw [hy] at hz; cases hz
      exact Or.inr (Or.inl ⟨y', hy', hev.hasCidrs hzc⟩)
    · rw [hy] at hnone; cases hnone

/-- The ClusterCIDR side.  Every rewrite raises the resource version, so a rewritten object is no longer the cached one
and the cache is never ahead of the API.  `hq`: the queue keeps the keys of objects the controller still owes a write;
`hn`: the node side, which this lemma only passes on. -/
theorem cc_ccs {s s' : Sys} (h : Pend s) {e : Ev} (hs : CCsStep e s.api.ccs s'.api.ccs) (hf : Frag2 s e)
    (hv : s'.ccView = s.ccView)
    (hq : ∀ x o, getCC s.ccView x = some o → getCC s.api.ccs x = some o → getCC s'.api.ccs x = some o → o.Owed →
      x ∈ s.ccQ → x ∈ s'.ccQ) (hn : NodePending s') : Pend s' := by
  have key : ∀ x ov oa, getCC s.ccView x = some ov → getCC s'.api.ccs x = some oa →
      (getCC s.api.ccs x = some oa) ∨ ov.rv < oa.rv := by
    intro x ov oa hxv hapi
    rcases hs.get x with hsame | ⟨_, rfl, _⟩ | hnone | ⟨o, o', ho, ho', hrv⟩
    · exact Or.inl (hsame ▸ hapi)
    · rw [show getCC s.ccView x = none from hf] at hxv; cases hxv
    · rw [hnone] at hapi; cases hapi
    · rw [ho'] at hapi; cases hapi
      exact Or.inr (Nat.lt_of_le_of_lt (h.rv x ov o hxv ho) hrv)
  refine ⟨hn, ?_, ?_⟩
  · intro x o hxv hapi hw
    rw [hv] at hxv
    rcases key x o o hxv hapi with hold | hlt
    · exact hq x o hxv hold hapi hw (h.cc x o hxv hold hw)
    · exact absurd hlt (Nat.lt_irrefl _)
  · intro x ov oa hxv hapi
    rw [hv] at hxv
    rcases key x ov oa hxv hapi with hold | hlt
    · exact h.rv x ov oa hxv hold
    · exact Nat.le_of_lt hlt

/-- what a node item may do to the rest of the world, and what it has achieved when it does not end in an error -/
structure NodeEff (s s' : Sys) (name : String) (res : String) : Prop where
  view_other : ∀ z, z ≠ name → getNode s'.nodeView z = getNode s.nodeView z
  api_other : ∀ z, z ≠ name → getNode s'.api.nodes z = getNode s.api.nodes z
  queue : ∀ x ∈ s.nodeQ, x ∈ s'.nodeQ
  served : res ≠ "err" → ∀ v, getNode s'.nodeView name = some v → v.deleting = false → v.hasCidrs = false →
    ∃ y, getNode s'.api.nodes name = some y ∧ y.hasCidrs = true
  ccs : s'.ccView = s.ccView ∧ s'.api.ccs = s.api.ccs ∧ s'.ccQ = s.ccQ

/-- the item's promise: unless it ends in an error, its node is served or the cache does not show it unserved -/
def Kept (r : Sys × Obs) (name : String) : Prop :=
  r.2.res ≠ "err" → ∀ v, getNode r.1.nodeView name = some v → v.deleting = false → v.hasCidrs = false →
    ∃ y, getNode r.1.api.nodes name = some y ∧ y.hasCidrs = true

theorem Kept.err (s : Sys) (ob : Obs) (name : String) (h : ob.res = "err") : Kept (s, ob) name := fun hr => absurd h hr

theorem Kept.seen {s : Sys} {ob : Obs} {name : String} {n : NodeObj} (hn : getNode s.nodeView name = some n)
    (h : n.hasCidrs = true ∨ n.deleting = true) : Kept (s, ob) name := by
  intro _ v hv hd hnc
  rw [show getNode s.nodeView name = some n from hn] at hv; cases hv
  rcases h with h | h
  · rw [h] at hnc; cases hnc
  · rw [h] at hd; cases hd

theorem update_kept (s : Sys) (name : String) (cidrs : List Cidr) (i : Nat) (ws : List WOut) (hne : cidrs ≠ []) :
    Kept (updateCIDRsAllocation s name cidrs i ws) name := by
  rcases update_cases s name cidrs i with ⟨_, e⟩ | ⟨n2, hn2, ⟨_, hc, e⟩ | ⟨_, hc, e⟩ | ⟨_, _, e⟩⟩ <;> rw [e ws]
  · exact .err _ _ _ rfl
  · exact .seen hn2 (Or.inl (hasCidrs_of_cidrs hne hc))
  · exact .seen hn2 (Or.inl hc)
  · split
    · rename_i hok
      obtain ⟨hacc, hapi⟩ := patchLoop_ok hok
      obtain ⟨y, hy, _, hc⟩ := patchNode_accepted hacc
      intro _ _ _ _ _
      show ∃ y, getNode (patchLoop s.api name cidrs 3 ws []).1.nodes name = some y ∧ _
      rw [hapi]; exact ⟨y, hy, hasCidrs_of_cidrs hne hc⟩
    · exact .err _ _ _ rfl

theorem allocate_kept (s : Sys) (n : NodeObj) (refresh : Bool) (ws : List WOut) (hn : getNode s.nodeView n.name = some n) :
    Kept (allocateOrOccupy s n refresh ws) n.name := by
  rcases allocate_cases s n refresh with ⟨hc, e⟩ | ⟨_, al, r, _, ⟨_, e⟩ | ⟨cidrs, i, _, hne, ⟨_, e⟩ | ⟨_, _, _, e⟩ | ⟨_, _, e⟩⟩⟩ <;>
    rw [e ws]
  · exact .seen hn (Or.inl hc)
  · exact .err _ _ _ rfl
  · exact update_kept _ _ _ _ _ hne
  · exact update_kept _ _ _ _ _ hne
  · exact .err _ _ _ rfl

theorem core_kept (s : Sys) (name : String) (refresh : Bool) (ws : List WOut) : Kept (procNodeCore s name refresh ws) name := by
  rcases procNodeCore_cases s name refresh with ⟨hnone, e⟩ | ⟨n, hn, hnn, ⟨hd, e⟩ | ⟨_, e⟩⟩ <;> rw [e ws]
  · intro _ v hv; rw [show getNode s.nodeView name = none from hnone] at hv; cases hv
  · exact .seen hn (Or.inr hd)
  · subst hnn; exact allocate_kept s n refresh ws hn

theorem core_eff (s : Sys) (name : String) (refresh : Bool) (ws : List WOut) :
    NodeEff s (procNodeCore s name refresh ws).1 name (procNodeCore s name refresh ws).2.res :=
  have item := procNodeCore_item s name refresh ws
  ⟨fun _ => item.view_other, fun _ => item.api_other, fun _ => item.queue, core_kept s name refresh ws,
    item.ccView, item.ccs, item.ccQ⟩

theorem pend_procNode {s : Sys} (h : Pend s) (name : String) (refresh : Bool) (ws : List WOut) :
    Pend (procNode s name refresh ws).1 := by
  have eff := core_eff { s with nodeQ := qDel s.nodeQ name } name refresh ws
  rw [procNode_eq]
  generalize procNodeCore { s with nodeQ := qDel s.nodeQ name } name refresh ws = r at eff ⊢
  obtain ⟨hccView, hccs, hccQ⟩ := eff.ccs
  refine cc_ccs h (e := .procNode name refresh ws) (hccs ▸ .same) trivial hccView
    (fun x _ _ _ _ _ hq => by show x ∈ r.1.ccQ; rw [hccQ]; exact hq) fun x v hxv hd hnc => ?_
  dsimp only
  rw [mem_requeue]
  by_cases hx : x = name
  · subst hx
    by_cases hres : r.2.res = "err"
    · exact Or.inl (Or.inr ⟨hres, rfl⟩)
    · exact Or.inr (Or.inl (eff.served hres v hxv hd hnc))
  · -- another node: nothing about it changed, and its key is still queued
    have hxv' : getNode s.nodeView x = some v := eff.view_other x hx ▸ hxv
    rw [show getNode _ x = getNode s.api.nodes x from eff.api_other x hx]
    exact (h.node x v hxv' hd hnc).imp_left fun hq => Or.inl (eff.queue x (mem_qDel.mpr ⟨hq, hx⟩))

theorem updateCC_newer {a : Api} {name : String} {rv : Nat} {fins : List String} (h : (a.updateCC name rv fins).2 = true)
    {o' : CCObj} (ho' : getCC (a.updateCC name rv fins).1.ccs name = some o') : rv < o'.rv := by
  rcases updateCC_cases a name rv fins with h1 | ⟨o, hg, hrv, ⟨_, _, h1⟩ | ⟨_, h1⟩⟩ <;> rw [h1] at h ho'
  · cases h
  · rw [show getCC (delCC a.ccs name) name = none from getCC_delCC_self ..] at ho'; cases ho'
  · obtain ⟨_, rfl⟩ := mem_of_getCC hg
    rw [show getCC (putCC a.ccs _) o.name = some _ from getCC_putCC_self a.ccs { o with finalizers := fins, rv := o.rv + 1 }] at ho'
    cases ho'; exact hrv ▸ Nat.lt_succ_self _

theorem pend_procCC {s : Sys} (h : Pend s) (name : String) (w : WOut) : Pend (procCC s name w).1 := by
  have item := procCCCore_item { s with ccQ := qDel s.ccQ name } name w
  rw [procCC_eq]
  generalize procCCCore { s with ccQ := qDel s.ccQ name } name w = r at item ⊢
  refine cc_ccs h (e := .procCC name w) (item.ccs _) trivial item.ccView (fun x o hxv hold hapi hw hq => ?_)
    fun x v hxv hd hnc => ?_
  · dsimp only
    rw [mem_requeue]
    have hq' : x ≠ name → x ∈ r.1.ccQ := fun hx => item.ccQ ▸ mem_qDel.mpr ⟨hq, hx⟩
    by_cases hres : r.2.res = "err"
    · exact (Decidable.em (x = name)).symm.imp hq' fun hx => ⟨hres, hx⟩
    · refine Or.inl (hq' fun hx => ?_)
      subst hx
      -- the item ended well: it had nothing to do, or its write went through and the object is newer than the cached one
      rcases item.api with ⟨_, hdone⟩ | ⟨o', fins, ho', hapi', hok⟩
      · exact hdone hres o hxv hw
      · rw [show getCC _ x = some o' from ho'] at hxv; cases hxv
        rcases attemptUpdate_cases s.api x o.rv fins w with ⟨_, hfail⟩ | ⟨hup, hacc⟩
        · rw [hok hres] at hfail; cases hfail
        · rw [hapi', hup] at hapi
          exact absurd (updateCC_newer hacc hapi) (Nat.lt_irrefl _)
  · rw [show getNode _ x = getNode s.nodeView x from congrArg (getNode · x) item.nodeView] at hxv
    show x ∈ r.1.nodeQ ∨ _
    rw [item.nodeQ, item.nodes_graves.1]
    exact h.node x v hxv hd hnc

theorem pend_boot (s : Sys) (svcs : List Cidr) (ws : List WOut) : Pend (boot s svcs ws).1 := by
  refine ⟨fun x v hv _ _ => Or.inl ?_, fun x o hv _ _ => ?_, fun x ov oa hv hapi => ?_⟩
  · rw [boot_nodeQ]; exact mem_sortNames.mpr (List.mem_map.mpr ⟨v, mem_of_getNode hv⟩)
  · rw [boot_ccQ]; exact mem_sortNames.mpr (List.mem_map.mpr ⟨o, mem_of_getCC hv⟩)
  · rw [boot_ccView, hapi] at hv; cases hv
    exact Nat.le_refl _

theorem pend_deliverNode {s : Sys} (h : Pend s) (name : String) (tomb : Bool) : Pend (step s (.deliverNode name tomb)).1 := by
  have key : ∀ (al : Alloc) (view : List NodeObj), (∀ x, x ≠ name → getNode view x = getNode s.nodeView x) →
      Pend { s with alloc := al, nodeView := view, nodeQ := qAdd s.nodeQ name } := by
    refine fun al view hview => ⟨fun x v hxv hd hnc => ?_, h.cc, h.rv⟩
    by_cases hx : x = name
    · exact Or.inl (mem_qAdd.mpr (Or.inl hx))
    · exact (h.node x v (hview x hx ▸ hxv) hd hnc).imp_left fun hq => mem_qAdd.mpr (Or.inr hq)
  rcases step_deliverNode s name tomb with ⟨cur, hc, he⟩ | ⟨_, _, he⟩ | ⟨_, _, _, he⟩ <;> rw [he]
  · exact key s.alloc _ fun x hx => getNode_putNode_ne _ _ ((mem_of_getNode hc).2.symm ▸ hx)
  · exact h
  · exact key _ _ fun x hx => getNode_delNode_ne _ hx

theorem pend_deliverCC {s : Sys} (h : Pend s) (name : String) : Pend (step s (.deliverCC name)).1 := by
  have key : ∀ (view : List CCObj), (∀ x, x ≠ name → getCC view x = getCC s.ccView x) →
      (∀ ov oa, getCC view name = some ov → getCC s.api.ccs name = some oa → ov.rv ≤ oa.rv) →
      Pend { s with ccView := view, ccQ := qAdd s.ccQ name } := by
    refine fun view hview hself => ⟨h.node, fun x o hxv hapi hw => ?_, fun x ov oa hxv hapi => ?_⟩
    · by_cases hx : x = name
      · exact mem_qAdd.mpr (Or.inl hx)
      · exact mem_qAdd.mpr (Or.inr (h.cc x o (hview x hx ▸ hxv) hapi hw))
    · by_cases hx : x = name
      · subst hx; exact hself ov oa hxv hapi
      · exact h.rv x ov oa (hview x hx ▸ hxv) hapi
  rcases step_deliverCC s name with ⟨cur, hc, he⟩ | ⟨_, _, he⟩ | ⟨_, he⟩ <;> rw [he]
  · have hn := (mem_of_getCC hc).2
    refine key _ (fun x hx => getCC_putCC_ne _ _ (hn.symm ▸ hx)) fun ov oa hov hoa => ?_
    rw [show getCC (putCC s.ccView cur) name = some cur from hn ▸ getCC_putCC_self ..] at hov
    rw [hc] at hoa; cases hov; cases hoa; exact Nat.le_refl _
  · exact h
  · refine key _ (fun x hx => getCC_delCC_ne _ hx) fun ov _ hov => ?_
    rw [show getCC (delCC s.ccView name) name = none from getCC_delCC_self ..] at hov; cases hov

/-- **nothing is forgotten**: every event keeps the unserved nodes and the unfinished ClusterCIDRs pending -/
theorem pend_step {s : Sys} (h : Pend s) (e : Ev) (hf : Frag2 s e) : Pend (step s e).1 := by
  by_cases hn : e.envNode = true
  · -- the world edits node objects: the ClusterCIDR side is untouched
    rw [step_envNode hn]
    exact ⟨nodePending_nodes h.node (step_nodes s e) hf rfl rfl, h.cc, h.rv⟩
  by_cases hc : e.envCC = true
  · -- the world edits ClusterCIDR objects: the node side is untouched
    rw [step_envCC hc]
    exact cc_ccs h (step_ccs s e (by rintro _ _ rfl; cases hc)) hf rfl (fun _ _ _ _ _ _ hq => hq) h.node
  cases e with
  | boot svcs ws => exact pend_boot s svcs ws
  | procNode name refresh ws =>
    rcases step_procNode s name refresh ws with he | he <;> rw [he]
    · exact h
    · exact pend_procNode h name refresh ws
  | procCC name w =>
    rcases step_procCC s name w with he | he <;> rw [he]
    · exact h
    · exact pend_procCC h name w
  | deliverNode name tomb => exact pend_deliverNode h name tomb
  | deliverCC name => exact pend_deliverCC h name
  | ccAdd | ccDel | ccGen | ccAddFin => exact absurd rfl hc
  | _ => exact absurd rfl hn

def Frag2All : Sys → List Ev → Prop
  | _, [] => True
  | s, e :: rest => Frag2 s e ∧ Frag2All (step s e).1 rest

theorem pend_run : ∀ (evs : List Ev) (s : Sys), Pend s → Frag2All s evs → Pend (run s evs) :=
  run_induction id fun e h hf => pend_step h e hf

theorem pend_init : Pend Sys.init := by
  refine ⟨fun _ _ hv => ?_, fun _ _ hv => ?_, fun _ _ _ hv => ?_⟩ <;> cases hv

/-- at a quiescent point — the node queue is empty and the cache shows what the API has — every node that is not
being deleted has pod CIDRs: no unserved node was dropped on the way -/
theorem quiescent_nodes_served {s : Sys} (h : Pend s) (hq : s.nodeQ = [])
    (hcur : ∀ x, getNode s.nodeView x = getNode s.api.nodes x) :
    ∀ x y, getNode s.api.nodes x = some y → y.deleting = false → y.hasCidrs = true := by
  intro x y hy hd
  cases hc : y.hasCidrs with
  | true => rfl
  | false =>
    exfalso
    rcases h.node x y (by rw [hcur]; exact hy) hd hc with hq' | ⟨z, hz, hzc⟩ | hnone
    · rw [hq] at hq'; cases hq'
    · rw [hy] at hz; cases hz; rw [hc] at hzc; cases hzc
    · rw [hy] at hnone; cases hnone

/-- … and every ClusterCIDR has been dealt with: one being deleted no longer carries the controller's finalizer (it is
released and, if that was its last finalizer, gone), every other one carries it -/
theorem quiescent_ccs_done {s : Sys} (h : Pend s) (hq : s.ccQ = [])
    (hcur : ∀ x, getCC s.ccView x = getCC s.api.ccs x) :
    ∀ x o, getCC s.api.ccs x = some o → (o.deleting = true → hasFin o = false) ∧ (o.deleting = false → hasFin o = true) := by
  intro x o ho
  have hno : ¬ o.Owed := fun hw => by
    have := h.cc x o (by rw [hcur]; exact ho) ho hw
    rw [hq] at this; cases this
  constructor
  · intro hd
    cases hf : hasFin o with
    | false => rfl
    | true => exact absurd (Or.inl ⟨hd, hf⟩) hno
  · intro hd
    cases hf : hasFin o with
    | true => rfl
    | false => exact absurd (Or.inr (by simp [needFin, hd, hf])) hno

end Ipam.Pending
