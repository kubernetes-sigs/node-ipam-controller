import IpamVerif.Alloc
import IpamVerif.SortLemmas
/-!
# C07 — the ClusterCIDR serving a node follows the documented priority order

`PQItem.less` transcribes `PriorityQueue.Less`.  `container/heap` is library code: pushing all
items and popping them yields *a* list sorted by `Less`; the theorems below show that `Less` is a
strict weak order (so such a list exists and equal-priority classes are well defined), that the
sorted list is *unique* when no two items agree on all five keys (so the result depends neither on
the iteration order of the Go map nor on creation order: determinism), and that the node is served
from the first entry of that list that has room.
-/
namespace Ipam.C07

structure StrictTotal {β : Type} (lt : β → β → Prop) : Prop where
  irrefl : ∀ x, ¬ lt x x
  trans : ∀ x y z, lt x y → lt y z → lt x z
  tri : ∀ x y, lt x y ∨ x = y ∨ lt y x

structure StrictWeak {α : Type} (R : α → α → Prop) : Prop where
  irrefl : ∀ a, ¬ R a a
  trans : ∀ a b c, R a b → R b c → R a c
  incomp_trans : ∀ a b c, (¬ R a b ∧ ¬ R b a) → (¬ R b c ∧ ¬ R c b) → (¬ R a c ∧ ¬ R c a)

/-- one lexicographic level on top of a strict weak order -/
def lexStep {α β : Type} (f : α → β) (lt : β → β → Prop) (R : α → α → Prop) (a b : α) : Prop :=
  lt (f a) (f b) ∨ (f a = f b ∧ R a b)

/-- incomparable at one level = equal on its key and incomparable below -/
theorem lexStep_incomp {α β : Type} {f : α → β} {lt : β → β → Prop} {R : α → α → Prop} (h1 : StrictTotal lt)
    (a b : α) : (¬ lexStep f lt R a b ∧ ¬ lexStep f lt R b a) ↔ (f a = f b ∧ ¬ R a b ∧ ¬ R b a) := by
  unfold lexStep
  constructor
  · rintro ⟨n1, n2⟩
    rcases h1.tri (f a) (f b) with h | h | h
    · exact absurd (Or.inl h) n1
    · exact ⟨h, fun r => n1 (Or.inr ⟨h, r⟩), fun r => n2 (Or.inr ⟨h.symm, r⟩)⟩
    · exact absurd (Or.inl h) n2
  · rintro ⟨e, r1, r2⟩
    rw [e]
    exact ⟨fun h => h.elim (h1.irrefl _) (r1 ·.2), fun h => h.elim (h1.irrefl _) (r2 ·.2)⟩

theorem lexStep_strictWeak {α β : Type} (f : α → β) (lt : β → β → Prop) (R : α → α → Prop)
    (h1 : StrictTotal lt) (h2 : StrictWeak R) : StrictWeak (lexStep f lt R) := by
  refine ⟨?_, ?_, ?_⟩
  · intro a h
    rcases h with h | ⟨_, h⟩
    · exact h1.irrefl _ h
    · exact h2.irrefl _ h
  · intro a b c hab hbc
    unfold lexStep at *
    rcases hab with h | ⟨e, h⟩ <;> rcases hbc with k | ⟨e', k⟩
    · exact Or.inl (h1.trans _ _ _ h k)
    · exact Or.inl (e' ▸ h)
    · exact Or.inl (e ▸ k)
    · exact Or.inr ⟨e.trans e', h2.trans _ _ _ h k⟩
  · intro a b c hab hbc
    rw [lexStep_incomp h1] at hab hbc ⊢
    exact ⟨hab.1.trans hbc.1, h2.incomp_trans a b c hab.2 hbc.2⟩

/-- one level of `Less`, `if x ≠ y then x < y else` the remaining levels, is one `lexStep` -/
theorem lexStep_ite {α β : Type} [DecidableEq β] (f : α → β) (lt : β → β → Prop) [DecidableRel lt]
    (irr : ∀ x, ¬ lt x x) (R : α → α → Prop) (a b : α) {rest : Bool} (h : rest = true ↔ R a b) :
    (if f a ≠ f b then decide (lt (f a) (f b)) else rest) = true ↔ lexStep f lt R a b := by
  unfold lexStep
  by_cases e : f a = f b
  · simp [e, h, irr]
  · simp [e]

theorem natLt_total : StrictTotal (· < · : Nat → Nat → Prop) :=
  ⟨Nat.lt_irrefl, fun _ _ _ => Nat.lt_trans, Nat.lt_trichotomy⟩
theorem natGt_total : StrictTotal (· > · : Nat → Nat → Prop) :=
  ⟨Nat.lt_irrefl, fun _ _ _ h k => Nat.lt_trans k h, fun x y => (Nat.lt_trichotomy y x).imp_right (.imp_left Eq.symm)⟩
theorem strLt_total : StrictTotal (· < · : String → String → Prop) :=
  ⟨String.lt_irrefl, fun _ _ _ => String.lt_trans, Std.lt_trichotomy⟩

/-- the empty relation at the bottom of the lexicographic tower -/
theorem bottom_strictWeak {α : Type} : StrictWeak (fun (_ _ : α) => False) :=
  ⟨fun _ h => h, fun _ _ _ h _ => h, fun _ _ _ _ _ => ⟨id, id⟩⟩

/-- the documented order as a relation: more satisfied requirements; then fewer blocks; then the smaller
per-node block (longer node mask); then the smaller selector string; then the smaller range string -/
def Documented : PQItem → PQItem → Prop :=
  lexStep (·.matchCnt) (· > ·) <|
  lexStep (·.maxAlloc) (· < ·) <|
  lexStep (·.maskSize) (· > ·) <|
  lexStep (·.sel) (· < ·) <|
  lexStep (·.label) (· < ·) (fun _ _ => False)

/-- `Less` is exactly the documented lexicographic order -/
theorem less_iff_documented (a b : PQItem) : a.less b = true ↔ Documented a b :=
  lexStep_ite _ _ natGt_total.irrefl _ a b <| lexStep_ite _ _ natLt_total.irrefl _ a b <|
  lexStep_ite _ _ natGt_total.irrefl _ a b <| lexStep_ite _ _ strLt_total.irrefl _ a b <| by simp [lexStep]

theorem documented_strictWeak : StrictWeak Documented :=
  lexStep_strictWeak _ _ _ natGt_total <|
    lexStep_strictWeak _ _ _ natLt_total <|
    lexStep_strictWeak _ _ _ natGt_total <|
    lexStep_strictWeak _ _ _ strLt_total <|
    lexStep_strictWeak _ _ _ strLt_total bottom_strictWeak

/-- **`PriorityQueue.Less` is a strict weak order** -/
theorem less_strictWeak : StrictWeak (fun a b => PQItem.less a b = true) := by
  simp only [less_iff_documented]; exact documented_strictWeak

/-- the five sort keys -/
def keys (x : PQItem) : Nat × Nat × Nat × String × String := (x.matchCnt, x.maxAlloc, x.maskSize, x.sel, x.label)

/-- neither of two items is before the other exactly when they agree on all five keys (the order is
total on key-distinct items) -/
theorem incomparable_iff_keys_eq (a b : PQItem) : (a.less b = false ∧ b.less a = false) ↔ keys a = keys b := by
  simp only [← Bool.not_eq_true, less_iff_documented, Documented, lexStep_incomp natGt_total,
    lexStep_incomp natLt_total, lexStep_incomp strLt_total, keys, Prod.mk.injEq, not_false_eq_true, and_true]

/-- sortedness: nobody later in the list is strictly before somebody earlier -/
def Sorted (l : List PQItem) : Prop := l.Pairwise (fun a b => b.less a = false)

theorem pqInsert_perm (x : PQItem) (l : List PQItem) : (pqInsert x l).Perm (x :: l) :=
  insert_perm pqInsert (·.less · = true) (fun _ => rfl) (fun _ _ _ => rfl) x l

theorem pqSort_perm (l : List PQItem) : (pqSort l).Perm l := foldr_insert_perm pqInsert_perm l

theorem pqInsert_sorted (x : PQItem) (l : List PQItem) (hs : Sorted l) : Sorted (pqInsert x l) := by
  have hsw := less_strictWeak
  induction l with
  | nil => exact List.pairwise_singleton _ _
  | cons h t ih =>
    unfold Sorted at hs ih ⊢
    rw [List.pairwise_cons] at hs
    unfold pqInsert
    split
    · -- `x` is before `h` and nothing in `t` is before `h`, so nothing in `h :: t` is before `x`
      rename_i hx
      refine List.pairwise_cons.mpr ⟨fun y hy => Bool.eq_false_iff.mpr fun hyx => ?_, List.pairwise_cons.mpr hs⟩
      rcases List.mem_cons.mp hy with rfl | hy
      · exact hsw.irrefl _ (hsw.trans _ _ _ hx hyx)
      · exact Bool.eq_false_iff.mp (hs.1 y hy) (hsw.trans _ _ _ hyx hx)
    · rename_i hx
      refine List.pairwise_cons.mpr ⟨fun y hy => ?_, ih hs.2⟩
      rcases List.mem_cons.mp ((pqInsert_perm x t).mem_iff.mp hy) with rfl | hy
      · exact Bool.eq_false_iff.mpr hx
      · exact hs.1 y hy

/-- what comes out of the priority queue is sorted by `Less` … -/
theorem pqSort_sorted (l : List PQItem) : Sorted (pqSort l) := by
  induction l with
  | nil => exact .nil
  | cons h t ih => exact pqInsert_sorted h _ ih

/-- … and, when no two items agree on all five keys, it is the ONLY sorted arrangement: any two sorted
permutations of the same items are equal, whatever order the items were pushed in (map iteration order,
creation order).  This is the determinism clause of the property. -/
theorem sorted_perm_unique : ∀ (l₁ l₂ : List PQItem), l₁.Perm l₂ → Sorted l₁ → Sorted l₂ →
    l₁.Pairwise (fun a b => keys a ≠ keys b) → l₁ = l₂ := by
  intro l₁ l₂ hp hs1 hs2 hk
  -- members of `l₁` with the same keys are the same item, so "not before" is antisymmetric on them
  have hd : ∀ ⦃a⦄, a ∈ l₁ → ∀ ⦃b⦄, b ∈ l₁ → keys a = keys b → a = b :=
    List.Pairwise.forall_of_forall_of_flip (fun _ _ _ => rfl)
      (hk.imp fun h e => absurd e h) (hk.imp fun h e => absurd e.symm h)
  exact hp.eq_of_pairwise (fun a b ha hb hba hab =>
    hd ha (hp.mem_iff.mpr hb) ((incomparable_iff_keys_eq a b).mp ⟨hab, hba⟩)) hs1 hs2

/-- pushing the same items in any order yields the same list -/
theorem pqSort_order_independent (l₁ l₂ : List PQItem) (hp : l₁.Perm l₂)
    (hk : l₁.Pairwise (fun a b => keys a ≠ keys b)) : pqSort l₁ = pqSort l₂ := by
  apply sorted_perm_unique _ _ (((pqSort_perm l₁).trans hp).trans (pqSort_perm l₂).symm) (pqSort_sorted _) (pqSort_sorted _)
  exact (pqSort_perm l₁).symm.pairwise hk (fun h => Ne.symm h)

/-- the walk of `prioritizedCIDRs`: the entries before the serving one were tried in order and each
refused (the state is threaded through the attempts), then the serving entry provided the blocks -/
theorem prioritized_some : ∀ (l : List Nat) (a a' : Alloc) (cidrs : List Cidr) (i : Nat),
    a.prioritized l = (a', some (cidrs, i)) →
    ∃ pre post a0, l = pre ++ i :: post ∧ a.prioritized pre = (a0, none) ∧ a0.tryEntry i = (a', some cidrs) := by
  intro l
  induction l with
  | nil => intro a a' c i h; cases h
  | cons j rest ih =>
    intro a a' c i h
    rw [Alloc.prioritized] at h
    split at h
    · rename_i heq
      cases h
      exact ⟨[], rest, a, rfl, rfl, heq⟩
    · rename_i a1 heq
      obtain ⟨pre, post, a0, rfl, h1, h2⟩ := ih a1 a' c i h
      exact ⟨j :: pre, post, a0, rfl, by rw [Alloc.prioritized, heq]; exact h1, h2⟩

/-- **the node is served from the first entry of the ordered list that has room**: every entry tried
before the serving one failed to provide a block in one of its families -/
theorem served_is_first_with_room : ∀ (l : List Nat) (a a' : Alloc) (cidrs : List Cidr) (i : Nat),
    a.prioritized l = (a', some (cidrs, i)) →
    ∃ pre post, l = pre ++ i :: post ∧
      ∃ a0 : Alloc, (a0.tryEntry i).2 = some cidrs ∧ (a0.tryEntry i).1 = a' := by
  intro l a a' cidrs i h
  obtain ⟨pre, post, a0, hl, _, h0⟩ := prioritized_some l a a' cidrs i h
  exact ⟨pre, post, hl, a0, by rw [h0], by rw [h0]⟩

/-- entries before the serving one did not serve -/
theorem earlier_entries_refused : ∀ (l : List Nat) (a a' : Alloc) (r : Option (List Cidr × Nat)) (j : Nat) (rest : List Nat),
    l = j :: rest → a.prioritized l = (a', r) → (a.tryEntry j).2 = none →
    a.prioritized l = (a.tryEntry j).1.prioritized rest := by
  rintro _ a _ _ j rest rfl _ hn
  rw [Alloc.prioritized]
  cases h : a.tryEntry j with
  | mk a1 r1 => rw [h] at hn; cases hn; rfl

example : pqSort [⟨0, 1, 16, 28, "zone in (a)", "10.0.0.0/24"⟩, ⟨1, 2, 16, 28, "gpu,zone in (a)", "10.0.1.0/24"⟩,
    ⟨2, 1, 4, 28, "zone in (a)", "10.0.2.0/26"⟩] = [⟨1, 2, 16, 28, "gpu,zone in (a)", "10.0.1.0/24"⟩,
    ⟨2, 1, 4, 28, "zone in (a)", "10.0.2.0/26"⟩, ⟨0, 1, 16, 28, "zone in (a)", "10.0.0.0/24"⟩] := rfl

end Ipam.C07
