import IpamVerif.StepLemmas
import IpamVerif.Facts
/-!
# C20 — objects read from the informer caches are never modified in place

In the model the caches are the fields `nodeView` / `ccView` of `Sys`; every
controller step returns the new system state explicitly.  The theorems state
that no work item changes a cached object: the views after the step are the
views before it, except for the one entry the environment itself refreshes
(`refresh = true`, the informer catching up in the middle of an item).
PARTIAL BY NATURE: in a pure functional model an object cannot be aliased and
mutated by accident, so these theorems only say that the *transcription* never
writes a view; in-place mutation of the real cache is decided by the tie (deep
comparison of every cached object with what the API server last sent, after
every step) and by the DeepCopy facts of the regenerated fact table.
-/
namespace Ipam.C20

/-- a node work item without a concurrent cache refresh leaves both caches exactly as they were -/
theorem procNode_views (s : Sys) (name : String) (ws : List WOut) :
    (procNode s name false ws).1.nodeView = s.nodeView ∧ (procNode s name false ws).1.ccView = s.ccView := by
  have h := procNodeCore_item { s with nodeQ := qDel s.nodeQ name } name false ws
  rw [procNode_eq]
  exact ⟨h.view.elim (·.1) (fun h => nomatch h.1), h.ccView⟩

/-- a ClusterCIDR work item leaves both caches exactly as they were (the objects it sends are built
from the cached one, never written back into it) -/
theorem procCC_views (s : Sys) (name : String) (w : WOut) :
    (procCC s name w).1.nodeView = s.nodeView ∧ (procCC s name w).1.ccView = s.ccView := by
  have h := procCCCore_item { s with ccQ := qDel s.ccQ name } name w
  rw [procCC_eq]
  exact ⟨h.nodeView, h.ccView⟩

/-- the only events that change a cache are the environment's: a delivery, a restart (the new incarnation's
informers list everything), and the refresh of one node's entry in the middle of its own item -/
theorem step_views_only_by_environment (s : Sys) (e : Ev)
    (he : match e with
      | .deliverNode .. | .deliverCC .. | .boot .. => False
      | .procNode _ refresh _ => refresh = false
      | _ => True) :
    (step s e).1.nodeView = s.nodeView ∧ (step s e).1.ccView = s.ccView := by
  by_cases hn : e.envNode = true
  · rw [step_envNode hn]; exact ⟨rfl, rfl⟩
  by_cases hc : e.envCC = true
  · rw [step_envCC hc]; exact ⟨rfl, rfl⟩
  cases e with
  | boot | deliverNode | deliverCC => exact absurd he id
  | procNode n r ws =>
    simp only at he
    subst he
    rcases step_procNode s n false ws with h | h <;> rw [h]
    · exact ⟨rfl, rfl⟩
    · exact procNode_views s n ws
  | procCC n w =>
    rcases step_procCC s n w with h | h <;> rw [h]
    · exact ⟨rfl, rfl⟩
    · exact procCC_views s n w
  | ccAdd | ccDel | ccGen | ccAddFin => exact absurd rfl hc
  | _ => exact absurd rfl hn

/-- the objects sent to the API server by the ClusterCIDR write paths are DeepCopies (C20) -/
theorem writesUseCopies : Facts.deepCopyWrites.all (fun (_, w, c) => w == c && w > 0) = true := by decide

end Ipam.C20
