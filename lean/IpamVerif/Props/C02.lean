import IpamVerif.System
import IpamVerif.NoRewrite
import IpamVerif.Props.C17
/-!
# C02 — every assignment is a well-formed block of one eligible ClusterCIDR
-/
namespace Ipam.C02

/-- what an entry hands out: exactly one block per pool it has, IPv4 first, each a block of that pool -/
def EntryBlocks (c : CC) (cidrs : List Cidr) : Prop :=
  match c.v4, c.v6 with
  | some p4, some p6 => ∃ k4 k6, k4 < p4.max ∧ k6 < p6.max ∧ cidrs = [goBlock p4.geo k4, goBlock p6.geo k6]
  | some p4, none => ∃ k4, k4 < p4.max ∧ cidrs = [goBlock p4.geo k4]
  | none, some p6 => ∃ k6, k6 < p6.max ∧ cidrs = [goBlock p6.geo k6]
  | none, none => cidrs = []

/-- **one CIDR per family configured in the serving entry, IPv4 first, never only part of them, each one
a block of that entry's pool** (`prioritizedCIDRs`, loop body) -/
theorem entry_serves_whole_blocks (a a' : Alloc) (i : Nat) (c : CC) (cidrs : List Cidr)
    (hget : a.get? i = some c) (hwf : c.WF) (h : a.tryEntry i = (a', some cidrs)) : EntryBlocks c cidrs := by
  obtain ⟨a1, l4, l6, rfl, h4, h6⟩ := Alloc.tryEntry_eq_some hget h
  -- the IPv6 step meets the entry with the IPv6 pool it had
  obtain ⟨⟨c1, hget1, hsame⟩, b4⟩ := h4.served_block hget (hwf .v4)
  have e6 : c1.pool .v6 = c.pool .v6 := hsame .v6 (by decide)
  replace h6 : AllocFam _ i .v6 (c.pool .v6) _ _ := h6
  obtain ⟨_, b6⟩ := AllocFam.served_block hget1 (fun p hp => hwf .v6 p (e6 ▸ hp)) (e6 ▸ h6)
  rw [e6] at b6
  unfold EntryBlocks
  rcases b4 with ⟨h4n, rfl⟩ | ⟨p4, k4, h4s, hk4, rfl⟩ <;>
    rcases b6 with ⟨h6n, rfl⟩ | ⟨p6, k6, h6s, hk6, rfl⟩
  · rw [show c.v4 = none from h4n, show c.v6 = none from h6n]; rfl
  · rw [show c.v4 = none from h4n, show c.v6 = some p6 from h6s]; exact ⟨k6, hk6, rfl⟩
  · rw [show c.v4 = some p4 from h4s, show c.v6 = none from h6n]; exact ⟨k4, hk4, rfl⟩
  · rw [show c.v4 = some p4 from h4s, show c.v6 = some p6 from h6s]; exact ⟨k4, k6, hk4, hk6, rfl⟩

/-- a block of a pool lies inside the pool's range, has the pool's node mask as prefix length and is
aligned to its size (C13) -/
theorem block_shape {f : Fam} {p : Pool} (hp : PoolOK f p) {k : Nat} (hk : k < p.max) :
    (goBlock p.geo k).fam = f ∧ (goBlock p.geo k).len = p.geo.n ∧ (goBlock p.geo k).Sub p.geo.range ∧ (goBlock p.geo k).WF := by
  have := C13.block_is_ith_subrange hp.supported hk
  exact ⟨hp.fam, rfl, this.2.2, this.2.1⟩

/-- the node mask of a pool built from a spec is the address width minus `perNodeHostBits`, and its range
is the spec's range -/
theorem built_pool_geometry {fld : RangeField} {want : Fam} {hb : Int} {p : Pool}
    (h : buildPool fld want hb = some (some p)) :
    ∃ c label, fld = .ok c label ∧ c.fam = want ∧ p.geo.range = c ∧ (p.geo.n : Int) = (c.W : Int) - hb ∧ p.label = label ∧ p.used = [] := by
  obtain ⟨c, label, g, rfl, hfam, hg, rfl⟩ := buildPool_eq_some h
  obtain ⟨_, hlen, _, rfl⟩ := newGeo_eq_some hg
  exact ⟨c, label, rfl, hfam, rfl, Int.toNat_of_nonneg (Int.le_trans (Int.natCast_nonneg _) hlen), rfl, rfl⟩

/-- membership in the list an allocation walks: mapped, not terminating, selector satisfied or absent -/
theorem ordered_mem_eligible (a : Alloc) (ls : Labels) (i : Nat) (h : i ∈ a.ordered ls true) :
    ∃ c, a.get? i = some c ∧ c.term = false ∧ ((∀ r ∈ c.reqs, r.sat ls = true) ∨ c.key = defaultKey) := by
  obtain ⟨c, hc, ht, hm⟩ := C17.mem_ordered.mp h
  exact ⟨c, hc, ht.resolve_left nofun, hm.imp_left (C17.matchCIDR_iff _ _).mp⟩

/-- every PATCH of a node item carries the CIDRs `prioritizedCIDRs` reserved from one entry of the
ordered list computed from the node the item read -/
theorem patch_comes_from_one_entry (s : Sys) (n : NodeObj) (refresh : Bool) (ws : List WOut)
    (h : (allocateOrOccupy s n refresh ws).2.patches ≠ []) :
    ∃ al cidrs i, s.alloc.prioritized (s.alloc.ordered n.labels true) = (al, some (cidrs, i)) ∧
      ∀ p ∈ (allocateOrOccupy s n refresh ws).2.patches, p.1 = n.name ∧ p.2.1 = cidrs := by
  rcases allocate_cases s n refresh with ⟨_, e⟩ | ⟨_, al, r, hp, ⟨_, e⟩ | ⟨cidrs, i, rfl, _, ⟨_, e⟩ | ⟨_, _, _, e⟩ | ⟨_, _, e⟩⟩⟩
  · rw [e] at h; exact absurd rfl h
  · rw [e] at h; exact absurd rfl h
  · exact ⟨al, cidrs, i, hp, by rw [e]; exact C08.patches_are_for_the_node _ _ _ _ _⟩
  · exact ⟨al, cidrs, i, hp, by rw [e]; exact C08.patches_are_for_the_node _ _ _ _ _⟩
  · rw [e] at h; exact absurd rfl h

example : EntryBlocks ⟨"k", [], "a", some (Pool.new ⟨.v4, 0x0a000000, 24, 28⟩ "10.0.0.0/24"), none, [], false⟩
    [goBlock ⟨.v4, 0x0a000000, 24, 28⟩ 3] := ⟨3, by decide, rfl⟩

end Ipam.C02
