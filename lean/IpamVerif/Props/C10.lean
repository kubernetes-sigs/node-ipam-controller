import IpamVerif.System
import IpamVerif.OnePer
import IpamVerif.Restart
/-!
# C10 — handling the same ClusterCIDR again has no additional effect
-/
namespace Ipam.C10

/-- number of entries filed for an object (its key and name) -/
def entriesFor (a : Alloc) (key name : String) : Nat := (a.ccs.filter (fun c => c.key == key && c.name == name)).length

theorem mapped_iff (a : Alloc) (key name : String) : a.mapped key name = true ↔ entriesFor a key name ≥ 1 := by
  unfold Alloc.mapped entriesFor
  rw [List.any_eq_true, ge_iff_le, Nat.succ_le_iff, List.length_pos_iff_exists_mem]
  simp only [List.mem_filter]

/-- **the in-memory part of handling a ClusterCIDR is idempotent**: mapping it again — after a failed
write, a duplicate or stale notification, or after start-up picked it up — changes nothing -/
theorem createCC_idempotent (a a' : Alloc) (name : String) (spec : CCSpec) (t t' : Bool)
    (h : a.createCC name spec t = some a') : a'.createCC name spec t' = some a' := by
  obtain ⟨reqs, hs, hcase⟩ := Alloc.createCC_eq_some h
  -- either way the pair is mapped afterwards
  have hm : a'.mapped (printSel reqs) name = true := by
    rcases hcase with ⟨hm, rfl⟩ | ⟨_, c, hb, rfl⟩
    · exact hm
    · obtain ⟨_, _, _, _, _, rfl⟩ := buildCC_eq_some hb
      exact Alloc.mapped_iff.mpr ⟨_, List.mem_append_right _ (List.mem_singleton.mpr rfl), rfl, rfl⟩
  unfold Alloc.createCC
  rw [hs]
  simp only [hm, if_true]

/-- **one pool set per object**: after any number of (re-)mappings an object that had at most one entry
has exactly one -/
theorem createCC_one_entry (a a' : Alloc) (name : String) (spec : CCSpec) (t : Bool) (reqs : List Req)
    (hs : selectorOf spec.sel = some reqs) (hle : entriesFor a (printSel reqs) name ≤ 1)
    (h : a.createCC name spec t = some a') : entriesFor a' (printSel reqs) name = 1 := by
  obtain ⟨reqs', hs', hcase⟩ := Alloc.createCC_eq_some h
  cases hs.symm.trans hs'
  rcases hcase with ⟨hm, e⟩ | ⟨hm, c, hb, rfl⟩
  · have := (mapped_iff a _ _).mp hm
    rw [e]; omega
  · obtain ⟨_, _, _, _, _, rfl⟩ := buildCC_eq_some hb
    have h0 : entriesFor a (printSel reqs) name = 0 := by
      have := mt (mapped_iff a (printSel reqs) name).mpr (by rw [hm]; exact Bool.false_ne_true)
      omega
    unfold entriesFor at h0 ⊢
    simp [List.filter_append, h0]

/-- a mapping attempt does not touch the entries of other objects -/
theorem createCC_others_untouched (a a' : Alloc) (name : String) (spec : CCSpec) (t : Bool)
    (h : a.createCC name spec t = some a') (key' name' : String) (hne : name' ≠ name) :
    entriesFor a' key' name' = entriesFor a key' name' := by
  obtain ⟨reqs, _, ⟨_, rfl⟩ | ⟨_, c, hb, rfl⟩⟩ := Alloc.createCC_eq_some h
  · rfl
  · obtain ⟨_, _, _, _, _, rfl⟩ := buildCC_eq_some hb
    unfold entriesFor
    simp [List.filter_append, Ne.symm hne]

/-- a ClusterCIDR that already carries the controller's finalizer and is not being deleted is left alone:
no memory change, no write (duplicate and stale notifications, periodic resyncs) -/
theorem settled_object_is_noop (s : Sys) (name : String) (w : WOut) (o : CCObj)
    (hv : getCC s.ccView name = some o) (hd : o.deleting = false) (hf : hasFin o = true) :
    procCCCore s name w = (s, { res := "ok" }) := by
  unfold procCCCore
  rw [hv]
  simp only [hd, Bool.false_eq_true, if_false]
  have : needFin o = false := by unfold needFin; simp [hf]
  rw [if_neg (by simp [this])]

/-- once deletion has completed (the entry was removed) the object contributes no pool -/
theorem delFirst_removed_count (key name : String) : ∀ (l l' : List CC),
    delFirst key name l = (l', .removed) →
    (l'.filter (fun c => c.key == key && c.name == name)).length + 1 = (l.filter (fun c => c.key == key && c.name == name)).length := by
  intro l l' h
  rcases delFirst_spec key name l with ⟨h1, _⟩ | ⟨pre, c, post, rfl, hk, hn, _, ⟨_, h1⟩ | ⟨_, h1⟩⟩ <;>
    (rw [h1] at h; cases h)
  simp [hk, hn]; omega

example : (Alloc.mk []).createCC "a" ⟨none, 4, .ok ⟨.v4, 0x0a000000, 24⟩ "10.0.0.0/24", .empty⟩ false ≠ none := by decide

/-- the count of entries filed for an object is the multiplicity of its (key, name) pair -/
theorem entriesFor_eq_count (a : Alloc) (key name : String) : entriesFor a key name = (OnePer.KN a).count (key, name) := by
  unfold entriesFor OnePer.KN
  rw [List.count_eq_countP, List.countP_map, List.countP_eq_length_filter]
  congr 2

/-- **C10 over whole histories, with no assumption**: whatever happens — the same ClusterCIDR processed again after
a failed write, duplicate or stale notifications, a restart picking it up again, deletions and re-creations — an
object (selector key, name) is never mapped more than once: it contributes at most one pool per family. -/
theorem one_entry_per_object_always (s : Sys) (hs : ∀ key name, entriesFor s.alloc key name ≤ 1) (evs : List Ev) :
    ∀ key name, entriesFor (run s evs).alloc key name ≤ 1 := by
  have h0 : OnePer.NoDupKN s.alloc := by
    unfold OnePer.NoDupKN
    rw [List.nodup_iff_count]
    intro x
    rw [← entriesFor_eq_count]; exact hs x.1 x.2
  have := OnePer.nodup_run evs s h0
  intro key name
  rw [entriesFor_eq_count]
  exact List.nodup_iff_count.mp this (key, name)

/-- in particular from the empty controller, through any number of restarts -/
theorem one_entry_per_object_from_start (evs : List Ev) : ∀ key name, entriesFor (run Sys.init evs).alloc key name ≤ 1 :=
  one_entry_per_object_always Sys.init (fun _ _ => by simp [entriesFor, Sys.init]) evs

/-! ### "…and none once it is deleted", on the fragment with restarts -/

/-- **a pool exists only for an object that exists**: in every state a history of the fragment with restarts
(`Restart.Frag3`: in particular no ClusterCIDR is deleted before the controller's finalizer is on it — finding P15)
can reach, every mapped entry carries the name of a ClusterCIDR object the API still holds, and has the shape of the
entry built from that object.  So a ClusterCIDR whose deletion completed contributes no pool. -/
theorem pool_only_while_object_exists (s0 : Sys) (h0 : Restart.Inv3 s0) (evs : List Ev) (hf : Restart.Frag3All s0 evs) :
    ∀ c ∈ (run s0 evs).alloc.ccs, ∃ o c0, getCC (run s0 evs).api.ccs c.name = some o ∧
      Restart.builtFrom o = some c0 ∧ Shape.sh c = Shape.sh c0 :=
  fun c hc => (Restart.inv3_run evs s0 h0 hf).cci.ent (Shape.sh c) (Restart.mem_SH.mpr ⟨c, hc, rfl⟩)

/-- ... and exactly one at most *per name* (not only per selector key and name): two entries with one name are built
from the same object, hence filed under the same key, hence the same entry -/
theorem at_most_one_entry_per_name (s0 : Sys) (h0 : Restart.Inv3 s0) (evs : List Ev) (hf : Restart.Frag3All s0 evs) :
    ∀ i j c d, (run s0 evs).alloc.get? i = some c → (run s0 evs).alloc.get? j = some d → c.name = d.name → i = j := by
  intro i j c d hi hj hn
  have hI := Restart.inv3_run evs s0 h0 hf
  obtain ⟨o1, c1, a1, b1, e1⟩ := hI.cci.ent (Shape.sh c) (Restart.mem_SH.mpr ⟨c, List.mem_of_getElem? hi, rfl⟩)
  obtain ⟨o2, c2, a2, b2, e2⟩ := hI.cci.ent (Shape.sh d) (Restart.mem_SH.mpr ⟨d, List.mem_of_getElem? hj, rfl⟩)
  rw [Restart.shName_sh] at a1 a2
  rw [hn, a2] at a1; cases a1
  rw [b2] at b1; cases b1
  have hk : OnePer.kn c = OnePer.kn d := by
    obtain ⟨k1, n1, _⟩ := Restart.kn_of_sh e1
    obtain ⟨k2, n2, _⟩ := Restart.kn_of_sh e2
    unfold OnePer.kn; rw [k1, k2, n1, n2]
  -- one entry per (key, name)
  have h1 : (OnePer.KN (run s0 evs).alloc)[i]? = some (OnePer.kn c) := by
    unfold OnePer.KN; rw [List.getElem?_map, show _[i]? = some c from hi]; rfl
  have h2 : (OnePer.KN (run s0 evs).alloc)[j]? = some (OnePer.kn c) := by
    unfold OnePer.KN; rw [List.getElem?_map, show _[j]? = some d from hj, hk]; rfl
  exact (List.getElem?_inj (List.getElem?_eq_some_iff.mp h1).1 hI.one).mp (h1.trans h2.symm)

end Ipam.C10
