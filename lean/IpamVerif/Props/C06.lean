import IpamVerif.System
import IpamVerif.Safety
import IpamVerif.Restart
import IpamVerif.Sticky
/-!
# C06 — a ClusterCIDR is released only when no node depends on it, then never used

(a) the finalizer-removing Update is sent only if the entry found for the object has no associated node
    (or no entry exists); while nodes are associated the item fails and is retried;
(b) from the step that processed the deletion request on, the entry is terminating and is not in the
    list an allocation walks — with or without selector (after the repair of the catch-all bucket);
    over whole histories without a restart, no other assumption (`Sticky.lean`, `terminating_entry_never_serves_again`):
    no node item, notification, service filter or ClusterCIDR item ever clears the flag;
(c) after the entry is removed nothing re-adds it while the object keeps being deleted;
(d) every Update sent carries the finalizers of the cached object plus or minus the controller's own
    finalizer, in the same order; nothing else of the object is part of the model's write.
PARTIAL: "no existing node depends on it" is the association recorded in memory; that every node whose
CIDRs are reserved only in this entry is associated with it is an invariant that fails for the known
findings P11 / P19 / P8 (release routed to another entry, stale tombstone, label edits); across
restarts (c) fails for P15 (a deleting object kept alive by a foreign finalizer is mapped as live).
-/
namespace Ipam.C06

/-- **(a)** a finalizer-removing Update is sent only when the entry filed for the object (if any) has no
associated node — and that entry is gone afterwards; with nodes associated the item fails (and is retried)
with the entry marked terminating -/
theorem finalizer_removed_only_without_dependants (s : Sys) (o : CCObj) (w : WOut)
    (hw : (reconcileDelete s o w).2.ccWrites ≠ []) :
    hasFin o = true ∧ ∃ reqs, selectorOf o.spec.sel = some reqs ∧
      ((∀ c ∈ s.alloc.ccs, ¬ (c.key = printSel reqs ∧ c.name = o.name)) ∨
       ∃ pre c post, s.alloc.ccs = pre ++ c :: post ∧ c.key = printSel reqs ∧ c.name = o.name ∧ c.assoc = [] ∧
         (reconcileDelete s o w).1.alloc.ccs = pre ++ post) := by
  rcases reconcileDelete_cases s o w with ⟨_, e⟩ | ⟨hf, ⟨_, e⟩ | ⟨hr, fins, _, e⟩⟩ <;> rw [e] at hw ⊢
  · exact absurd rfl hw
  · exact absurd rfl hw
  · refine ⟨hf, ?_⟩
    unfold Alloc.deleteCC at hr ⊢
    cases hs : selectorOf o.spec.sel with
    | none => rw [hs] at hr; rcases hr with hr | hr <;> cases hr
    | some reqs =>
      refine ⟨reqs, rfl, ?_⟩
      rw [hs] at hr
      simp only at hr ⊢
      rcases delFirst_spec (printSel reqs) o.name s.alloc.ccs with
        ⟨h1, h2⟩ | ⟨pre, c, post, e1, k1, k2, _, ⟨_, h1⟩ | ⟨k3, h1⟩⟩ <;> rw [h1] at hr ⊢
      · exact Or.inl h2
      · rcases hr with hr | hr <;> cases hr
      · exact Or.inr ⟨pre, c, post, e1, k1, k2, k3, rfl⟩

theorem dependants_block_release (s : Sys) (o : CCObj) (w : WOut) (reqs : List Req) (hf : hasFin o = true)
    (hs : selectorOf o.spec.sel = some reqs) (l' : List CC)
    (hd : delFirst (printSel reqs) o.name s.alloc.ccs = (l', .hasNodes)) :
    (reconcileDelete s o w).2.res = "err" ∧ (reconcileDelete s o w).2.ccWrites = [] ∧ (reconcileDelete s o w).1.api = s.api := by
  have hr : (s.alloc.deleteCC o.name o.spec).2 = .hasNodes := by unfold Alloc.deleteCC; rw [hs]; simp only [hd]
  rcases reconcileDelete_cases s o w with ⟨h, _⟩ | ⟨_, ⟨_, e⟩ | ⟨h, _⟩⟩
  · rw [hf] at h; cases h
  · rw [e]; exact ⟨rfl, rfl, rfl⟩
  · rw [hr] at h; rcases h with h | h <;> cases h

/-- **(b)** a terminating entry is never in the list an allocation (or the recording of an existing
node's CIDRs) walks — whether it has a selector or not -/
theorem terminating_never_served (a : Alloc) (ls : Labels) (i : Nat) (c : CC) (hc : a.ccs[i]? = some c)
    (ht : c.term = true) : i ∉ a.ordered ls true := by
  intro hmem
  obtain ⟨d, hd, htd, _⟩ := C02.ordered_mem_eligible a ls i hmem
  rw [show a.get? i = some c from hc] at hd
  cases hd; rw [ht] at htd; cases htd

/-- **(d)** the finalizers an Update carries: those of the cached object with the controller's own one
appended (creation) … -/
theorem create_write_adds_only_own_finalizer (s : Sys) (o : CCObj) (t : Bool) (w : WOut) :
    ∀ x ∈ (createClusterCIDR s o t w).2.ccWrites, x.1 = o.name ∧
      (x.2.1 = o.finalizers ∨ (x.2.1 = o.finalizers ++ [finalizerName] ∧ finalizerName ∉ o.finalizers)) := by
  intro x hx
  rcases createClusterCIDR_cases s o t w with ⟨_, e⟩ | ⟨al, fins, _, hfins, e⟩ <;> rw [e] at hx
  · cases hx
  · cases List.mem_singleton.mp hx
    refine ⟨rfl, ?_⟩
    show fins = _ ∨ _
    rw [hfins]
    split
    · rename_i hn
      simp only [needFin, hasFin, Bool.and_eq_true, Bool.not_eq_true', List.contains_eq_mem, decide_eq_false_iff_not] at hn
      exact Or.inr ⟨rfl, hn.2⟩
    · exact Or.inl rfl

/-- … or removed (deletion), the finalizers of others staying in place and in order -/
theorem delete_write_removes_only_own_finalizer (s : Sys) (o : CCObj) (w : WOut) :
    ∀ x ∈ (reconcileDelete s o w).2.ccWrites, x.1 = o.name ∧ x.2.1 = o.finalizers.filter (· != finalizerName) := by
  intro x hx
  rcases reconcileDelete_cases s o w with ⟨_, e⟩ | ⟨_, ⟨_, e⟩ | ⟨_, fins, hfins, e⟩⟩ <;> rw [e] at hx
  · cases hx
  · cases hx
  · cases List.mem_singleton.mp hx; exact ⟨rfl, hfins⟩

/-- **on the fragment of `Safety.lean`** (ClusterCIDRs with disjoint ranges, no restart, no lost node writes …):
whatever a ClusterCIDR work item does — in particular when it unmaps the ClusterCIDR and removes the finalizer —
every node that exists, is not being deleted and holds pod CIDRs is afterwards still associated with a mapped
ClusterCIDR in whose pools all those CIDRs are in use.  So a ClusterCIDR is only ever released when no
existing node depends on it for the reservation of its pod CIDRs. -/
theorem cc_item_keeps_every_holder_reserved (s : Sys) (hs : Safety.Inv s) (name : String) (w : WOut)
    (hf : Safety.Frag s (.procCC name w)) :
    ∀ y ∈ (step s (.procCC name w)).1.api.nodes, y.deleting = false → y.cidrs ≠ [] →
      ∃ i, Safety.Claims (step s (.procCC name w)).1.alloc y.name i ∧
        ∀ cd ∈ y.cidrs, Safety.UsedAt (step s (.procCC name w)).1.alloc i cd :=
  fun y hy hd h0 => (Safety.inv_step hs _ hf).held y (List.mem_append_left _ hy) h0 (Or.inl hd)

/-- **"only when no existing node depends on it"**, by geometry: in a state satisfying the invariant of `Safety.lean`,
when an item sends the Update that removes the controller's finalizer, either nothing was mapped for the object, or
the entry that is unmapped contains, in none of its ranges, a pod CIDR of an existing node that is not being deleted —
whether or not the controller has anything recorded for that node -/
theorem released_ranges_hold_no_live_cidr (s : Sys) (hs : Safety.Inv s) (o : CCObj) (w : WOut)
    (hw : (reconcileDelete s o w).2.ccWrites ≠ []) :
    (∀ c ∈ s.alloc.ccs, c.name = o.name → ∀ reqs, selectorOf o.spec.sel = some reqs → c.key ≠ printSel reqs) ∨
    ∃ pre c post, s.alloc.ccs = pre ++ c :: post ∧ c.name = o.name ∧ (reconcileDelete s o w).1.alloc.ccs = pre ++ post ∧
      ∀ v ∈ s.api.nodes, v.deleting = false → ∀ cd ∈ v.cidrs, ∀ p, c.pool cd.fam = some p → cd.Disjoint p.geo.range := by
  obtain ⟨_, reqs, hsel, hcase⟩ := finalizer_removed_only_without_dependants s o w hw
  rcases hcase with hnone | ⟨pre, c, post, e1, k1, k2, k3, k4⟩
  · left
    intro c hc hn reqs' hsel' hk
    rw [hsel] at hsel'; cases hsel'
    exact hnone c hc ⟨hk, hn⟩
  · right
    refine ⟨pre, c, post, e1, k2, k4, ?_⟩
    intro v hv hd cd hcd p hp
    have hj : s.alloc.get? pre.length = some c := by
      unfold Alloc.get?; rw [e1]; simp
    have hne : v.cidrs ≠ [] := by intro h; rw [h] at hcd; cases hcd
    obtain ⟨i, hci, hu⟩ := hs.held v (List.mem_append_left _ hv) hne (Or.inl hd)
    have hij : i ≠ pre.length := by
      rintro rfl
      obtain ⟨c', hg', hx⟩ := hci
      rw [hj] at hg'; cases hg'
      rw [k3] at hx; cases hx
    obtain ⟨ci, pi, hgi, hpi, hsub, _⟩ := Safety.usedAt_sub_range hs.wf (hu cd hcd)
    exact Cidr.disjoint_of_sub hsub (hs.rd pre.length i c ci cd.fam p pi hj hgi hp hpi (Ne.symm hij))

/-- ... in every state a history of the fragment with restarts (`Restart.Frag3`) can reach: a restart does not make
the controller forget who depends on a ClusterCIDR -/
theorem release_is_safe_after_any_history_with_restarts (s0 : Sys) (h0 : Restart.Inv3 s0) (evs : List Ev)
    (hf : Restart.Frag3All s0 evs) (o : CCObj) (w : WOut)
    (hw : (reconcileDelete (run s0 evs) o w).2.ccWrites ≠ []) :
    (∀ c ∈ (run s0 evs).alloc.ccs, c.name = o.name → ∀ reqs, selectorOf o.spec.sel = some reqs → c.key ≠ printSel reqs) ∨
    ∃ pre c post, (run s0 evs).alloc.ccs = pre ++ c :: post ∧ c.name = o.name ∧
      (reconcileDelete (run s0 evs) o w).1.alloc.ccs = pre ++ post ∧
      ∀ v ∈ (run s0 evs).api.nodes, v.deleting = false → ∀ cd ∈ v.cidrs, ∀ p, c.pool cd.fam = some p → cd.Disjoint p.geo.range :=
  released_ranges_hold_no_live_cidr _ (Restart.inv3_run evs s0 h0 hf).inv o w hw

/-- **then never used** — every history without a restart, no other assumption: once the entry of a ClusterCIDR is
terminating (its deletion request was processed while nodes depended on it), then in every later state — up to the
moment the entry is removed from the map — every entry filed under that selector key and name is terminating and
is in no list an allocation or a recording walks, for any node labels -/
theorem terminating_entry_never_serves_again (s : Sys) (evs : List Ev) (p : String × String)
    (hd : Sticky.Dead s.alloc p) (hb : ∀ e ∈ evs, ∀ svcs ws, e ≠ Ev.boot svcs ws) :
    (∀ (i : Nat) (c : CC), (run s evs).alloc.ccs[i]? = some c → OnePer.kn c = p →
        c.term = true ∧ ∀ ls, i ∉ (run s evs).alloc.ordered ls true) ∨
    ∃ pre post, evs = pre ++ post ∧ p ∉ OnePer.KN (run s pre).alloc := by
  rcases Sticky.run_dead evs s p hd hb with h | h
  · left
    intro i c hc hk
    have ht : c.term = true := by
      cases hterm : c.term with
      | true => rfl
      | false =>
        exfalso
        apply h
        unfold Sticky.Live
        refine List.mem_map.mpr ⟨c, List.mem_filter.mpr ⟨List.mem_of_getElem? hc, by simp [hterm]⟩, hk⟩
    exact ⟨ht, fun ls => terminating_never_served _ ls i c hc ht⟩
  · right; exact h

/-- the premise is met by a real history: the controller starts, `n1` is served from the selector-less ClusterCIDR `a`,
`a` is deleted and the deletion request is processed while `n1` depends on it … -/
def exTerm : List Ev :=
  [.boot [] [], .nodeAdd ⟨"n1", [], [], false, false⟩, .deliverNode "n1" false, .procNode "n1" false [],
   .ccDel "a", .deliverCC "a", .procCC "a" .ok]
/-- … later a new node arrives, the ClusterCIDR item is retried with a failing write, `n1` is re-synced -/
def exLater : List Ev :=
  [.nodeAdd ⟨"n5", [], [], false, false⟩, .deliverNode "n5" false, .procNode "n5" false [], .procCC "a" .fail,
   .procNode "n1" false []]

instance (a : Alloc) (p : String × String) : Decidable (Sticky.Dead a p) := by unfold Sticky.Dead; infer_instance

example : Sticky.Dead (run Restart.exStart3 exTerm).alloc ("kubernetes.io/clusterCIDR in (default)", "a") := by decide +kernel
example : ∀ e ∈ exLater, ∀ svcs ws, e ≠ Ev.boot svcs ws := by
  intro e he svcs ws; simp [exLater] at he; rcases he with rfl | rfl | rfl | rfl | rfl <;> simp
/-- the new node, which only `a` could serve, gets nothing; `a` stays mapped (n1 still depends on it) and terminating -/
example : (run Restart.exStart3 (exTerm ++ exLater)).api.nodes.map (fun n => (n.name, n.cidrs.map (·.addr))) =
    [("n1", [0x0a000000]), ("n5", [])] ∧
    Sticky.KNT (run Restart.exStart3 (exTerm ++ exLater)).alloc =
      [("kubernetes.io/clusterCIDR in (default)", "a", true), ("zone in (a)", "b", false)] := by decide +kernel

end Ipam.C06
