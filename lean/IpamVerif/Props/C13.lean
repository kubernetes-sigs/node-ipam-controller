import IpamVerif.AddrLemmas
/-!
# C13 — block numbering of a range is a bijection onto its aligned sub-ranges

The arithmetic behind these statements is in `AddrLemmas`.  `goBlock`, `goIndexOf`,
`goBeginEnd` are the transcriptions of `indexToCIDRBlock`, `getIndexForIP`,
`getBeginningAndEndIndices`; `Geo.Valid` is what `NewMultiCIDRSet` accepts;
`Supported` additionally excludes the single 2^32-block IPv4 geometry, as the
property does.
-/
namespace Ipam.C13

/-- the quantifier of the property -/
def Supported (g : Geo) : Prop := g.Valid ∧ (g.max < 2 ^ 32 ∨ g.fam = .v6)
instance (g : Geo) : Decidable (Supported g) := by unfold Supported; exact inferInstance

/-- block `i` is the `i`-th aligned sub-range of the range -/
theorem block_is_ith_subrange {g : Geo} (h : Supported g) {i : Nat} (hi : i < g.max) :
    goBlock g i = ⟨g.fam, g.base + i * g.blockSize, g.n⟩ ∧ (goBlock g i).WF ∧
    (goBlock g i).Sub g.range := by
  rw [goBlock_eq h.1 hi]
  exact ⟨rfl, Geo.block_WF h.1 hi, Geo.block_sub_range h.1 hi⟩

/-- distinct numbers give disjoint blocks -/
theorem blocks_disjoint {g : Geo} (h : Supported g) {i j : Nat} (hi : i < g.max) (hj : j < g.max)
    (hij : i ≠ j) : (goBlock g i).Disjoint (goBlock g j) := by
  rw [goBlock_eq h.1 hi, goBlock_eq h.1 hj]
  exact g.block_disjoint hij

/-- the blocks tile the range exactly -/
theorem blocks_tile {g : Geo} (h : Supported g) (a : Nat) :
    g.range.Mem a ↔ ∃ i, i < g.max ∧ (goBlock g i).Mem a := by
  constructor
  · intro ha
    have hi := Geo.idx_lt h.1 ha
    exact ⟨g.idx a, hi, goBlock_eq h.1 hi ▸ Geo.mem_block_iff.mpr ⟨ha.1, rfl⟩⟩
  · rintro ⟨i, hi, hm⟩
    exact Geo.block_mem_range h.1 hi (goBlock_eq h.1 hi ▸ hm)

/-- any address of block `i` maps back to `i` -/
theorem index_of_address {g : Geo} (h : Supported g) {i a : Nat} (hi : i < g.max)
    (ha : (goBlock g i).Mem a) : goIndexOf g a = some i := by
  rw [goBlock_eq h.1 hi] at ha
  rw [goIndexOf_of_mem h.1 h.2 (Geo.block_mem_range h.1 hi ha), (Geo.mem_block_iff.mp ha).2]

/-- addresses outside the range are rejected -/
theorem index_of_outside {g : Geo} (h : Supported g) {a : Nat} (ha : ¬ g.range.Mem a) :
    goIndexOf g a = none := goIndexOf_outside h.1 h.2 ha

/-- the block itself, or any sub-range of it, maps back to `(i, i)` -/
theorem beginEnd_of_subrange {g : Geo} (h : Supported g) {i : Nat} (hi : i < g.max) {cd : Cidr}
    (hcd : cd.WF) (hf : cd.fam = g.fam) (hsub : cd.Sub (goBlock g i)) : goBeginEnd g cd = some (i, i) := by
  rw [goBlock_eq h.1 hi] at hsub
  rw [goBeginEnd_eq_spec h.1 h.2 hcd]
  have hndi : ¬ (g.block i).Disjoint cd := Cidr.not_disjoint_of_mem hsub.mem_addr cd.mem_addr
  cases hs : specBeginEnd g cd with
  | none =>
    rcases specBeginEnd_eq_none.mp hs with h1 | h1
    · exact absurd hf h1
    · exact absurd ((Cidr.disjoint_comm.mp h1).mono_left (Geo.block_sub_range h.1 hi)) hndi
  | some be =>
    obtain ⟨b, e⟩ := be
    obtain ⟨_, hbe, hemax, hiff⟩ := specBeginEnd_some h.1 hcd hs
    -- a block that meets `cd` meets block `i`, hence is block `i`
    have key : ∀ k, ¬ (g.block k).Disjoint cd → k = i := fun k hnd => Decidable.by_contra fun hne =>
      hnd (Cidr.disjoint_comm.mp ((g.block_disjoint (Ne.symm hne)).mono_left hsub))
    have hb := Nat.lt_of_le_of_lt hbe hemax
    rw [key b ((hiff b hb).mp ⟨Nat.le_refl _, hbe⟩), key e ((hiff e hemax).mp ⟨hbe, Nat.le_refl _⟩)]

/-- a CIDR that contains the whole range maps to all blocks -/
theorem beginEnd_of_superrange {g : Geo} (h : Supported g) {cd : Cidr} (hcd : cd.WF)
    (hf : cd.fam = g.fam) (hsup : g.range.Sub cd) : goBeginEnd g cd = some (0, g.max - 1) := by
  rw [goBeginEnd_eq_spec h.1 h.2 hcd]
  unfold specBeginEnd
  have hnd : ¬ cd.Disjoint g.range := Cidr.not_disjoint_of_mem hsup.mem_addr g.range.mem_addr
  rw [if_neg (not_or.mpr ⟨not_not_intro hf, hnd⟩), if_pos]
  -- the range is no larger than `cd`: 2^(W-c) ≤ 2^(W-len)
  have hs : g.range.size ≤ cd.size :=
    Nat.le_of_add_le_add_left (Nat.le_trans hsup.2 (Nat.add_le_add_right hsup.1 _))
  have hW : cd.W = g.W := congrArg Fam.W hf
  unfold Cidr.size Cidr.hostBits at hs
  rw [hW] at hs
  exact (Nat.sub_le_sub_iff_left (hW ▸ hcd.1 : cd.len ≤ g.W)).mp ((Nat.pow_le_pow_iff_right (by decide)).mp hs)

/-- a CIDR is rejected exactly when it does not meet the range (or is of the other family) -/
theorem beginEnd_rejects_iff {g : Geo} (h : Supported g) {cd : Cidr} (hcd : cd.WF) :
    goBeginEnd g cd = none ↔ (cd.fam ≠ g.fam ∨ cd.Disjoint g.range) := by
  rw [goBeginEnd_eq_spec h.1 h.2 hcd]
  exact specBeginEnd_eq_none

/-- every range / host-bits pair `NewMultiCIDRSet` accepts is a valid geometry -/
theorem newGeo_valid {r : Cidr} (hr : r.WF) {hb : Int} {g : Geo} (h : newGeo r hb = some g) : g.Valid := by
  obtain ⟨hb0, hlen, h16, rfl⟩ := newGeo_eq_some h
  -- the node mask size as a natural number
  obtain ⟨n, hn⟩ := Int.eq_ofNat_of_zero_le (Int.le_trans (Int.natCast_nonneg _) hlen)
  rw [hn] at hlen h16
  rw [hn, Int.toNat_natCast]
  have hln : r.len ≤ n := Int.ofNat_le.mp hlen
  refine ⟨hln, Int.ofNat_le.mp (hn ▸ Int.sub_le_self _ hb0), hr.2.1, hr.2.2, fun hf => Int.ofNat_le.mp ?_⟩
  rw [Int.ofNat_sub hln]
  exact h16 hf

/-! non-vacuity: concrete geometries of every branch of the Go code meet `Supported` -/
example : Supported ⟨.v4, 0x0a000000, 8, 24⟩ := by decide
example : Supported ⟨.v6, 0xfd000000000000000000000000000000, 48, 64⟩ := by decide   -- left half only
example : Supported ⟨.v6, 0xfd001234567800000000000000000000, 52, 68⟩ := by decide   -- straddling
example : Supported ⟨.v6, 0xfd000000000000000000000000010000, 112, 120⟩ := by decide -- right half only
example : goBlock ⟨.v6, 0xfd001234567800000000000000000000, 52, 68⟩ 0x1234 =
    ⟨.v6, 0xfd001234567801230000000000000000 + 0x4000000000000000, 68⟩ := by decide

end Ipam.C13
