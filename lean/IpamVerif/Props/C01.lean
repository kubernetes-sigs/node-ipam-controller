import IpamVerif.Safety
import IpamVerif.Restart
/-!
# C01 — no two nodes are ever given overlapping pod CIDRs

**Proved, for every history of the fragment (`no_two_nodes_overlap`).**  Start from a controller that has mapped
ClusterCIDRs with pairwise disjoint ranges and a cluster whose nodes hold no pod CIDRs (`Safety.inv_init`; any
state satisfying the invariant will do).  Then, after *any* sequence of fragment events — nodes created, marked
for deletion, deleted; ClusterCIDRs (with ranges disjoint from the mapped ones) created, deleted, touched by
other controllers; notifications delivered late, in any order, or overtaken by a cache update in the middle of
an item; node and ClusterCIDR work items interleaved arbitrarily, each API write failing any number of times —
no two nodes that exist and are not being deleted hold overlapping pod CIDRs.  Unbounded in the number of nodes,
ClusterCIDRs, families, block sizes and steps.  The proof is an inductive invariant of the whole controller model
(`Safety.Inv`, `Safety.inv_step`).

**With restarts at any instant** (`no_two_nodes_overlap_with_restarts`, from `Restart.lean`): the same statement for
histories in which the controller is stopped and started again any number of times, under the conditions listed in
`Props/C03.lean` (ClusterCIDRs deleted only once the finalizer is on them, not edited, names not re-used while cached).

**The assignment step, with no assumption at all** (`Recorded.lean`): a block handed out overlaps no CIDR that any
pool records, and the reservation precedes the write.

**Outside the fragment** the property is *false* on the pinned code — each exclusion is a recorded finding with a
witness replayed on the implementation on every run: label edits, also followed by a restart (P8, P10), overlapping
ClusterCIDRs (P9, P11, P12, P22), node writes applied but reported as failed (P13), nodes created with or handed
pod CIDRs by someone else (P18), a node re-created before its deletion was delivered (P21), tombstones with a
stale state (P19).  There the correspondence check and the judge (`checklib/judge_hist.py`) do the work.
-/
namespace Ipam.C01
open Ipam.Safety

/-- **C01 on the fragment** -/
theorem no_two_nodes_overlap (s : Sys) (hs : Inv s) (evs : List Ev) (hf : FragAll s evs) :
    ∀ x ∈ (run s evs).api.nodes, ∀ y ∈ (run s evs).api.nodes, x.name ≠ y.name → x.deleting = false → y.deleting = false →
      ∀ a ∈ x.cidrs, ∀ b ∈ y.cidrs, a.fam = b.fam → a.Disjoint b :=
  no_overlap_ever s hs evs hf

/-- **C01 on the fragment with restarts** -/
theorem no_two_nodes_overlap_with_restarts (s : Sys) (hs : Restart.Inv3 s) (evs : List Ev) (hf : Restart.Frag3All s evs) :
    ∀ x ∈ (run s evs).api.nodes, ∀ y ∈ (run s evs).api.nodes, x.name ≠ y.name → x.deleting = false → y.deleting = false →
      ∀ a ∈ x.cidrs, ∀ b ∈ y.cidrs, a.fam = b.fam → a.Disjoint b :=
  Restart.no_overlap_across_restarts s hs evs hf

/-- the fragment is closed under prefixes, so the statement holds at every moment of the history, in particular
right after every write of pod CIDRs -/
theorem fragAll_prefix : ∀ (evs evs' : List Ev) (s : Sys), FragAll s (evs ++ evs') → FragAll s evs := by
  intro evs
  induction evs with
  | nil => intro _ _ _; trivial
  | cons e rest ih => intro evs' s h; exact ⟨h.1, ih evs' _ h.2⟩

/-- a start satisfying the invariant exists and a non-trivial history of the fragment exists: see
`Safety.exStart_inv` and the examples after it -/
example : Inv exStart := exStart_inv

end Ipam.C01
