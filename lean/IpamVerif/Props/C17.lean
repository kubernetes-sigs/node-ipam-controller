import IpamVerif.AllocLemmas
import IpamVerif.Props.C07
/-!
# C17 — a ClusterCIDR applies to exactly the nodes its selector describes

`Req.sat` transcribes `Requirement.Matches`, `RawReq.toReq` the repo's operator mapping plus
`labels.NewRequirement`, `flattenTerms` / `selectorOf` the repo's `nodeSelectorAsSelector` /
`nodeSelectorKey`, `matchCIDR` the repo's `matchCIDRLabels` applied to what `labels.Parse` returns
for the printed key (`Req.normalize`: each value list as a sorted set).

PARTIAL: the full statement "different selectors are never confused" is false for the internal
sentinel selector `kubernetes.io/clusterCIDR in (default)` (known finding P14, witness below); the
character-level lexer of `labels.Parse` is library code (trusted base, exercised by the tie).
-/
namespace Ipam.C17

theorem sortStrs_perm (l : List String) : (sortStrs l).Perm l :=
  foldr_insert_perm (insert_perm insertStr (· < ·) (fun _ => rfl) (fun _ _ _ => rfl)) l

theorem mem_dedupStrs (x : String) (l : List String) : x ∈ dedupStrs l ↔ x ∈ l := by
  induction l with
  | nil => exact .rfl
  | cons h t ih =>
    unfold dedupStrs
    split
    · rename_i hc
      rw [ih, List.mem_cons]
      exact ⟨.inr, fun h1 => h1.elim (fun e => e ▸ List.contains_iff_mem.mp hc) id⟩
    · rw [List.mem_cons, List.mem_cons, ih]

theorem contains_iff (l : List String) (v : String) : l.contains v = true ↔ v ∈ l := by
  simp

theorem sat_In (k : String) (vs : List String) (ls : Labels) :
    (⟨k, .In, vs⟩ : Req).sat ls = true ↔ ∃ v, ls.get k = some v ∧ v ∈ vs := by
  simp only [Req.sat]; cases ls.get k <;> simp
theorem sat_NotIn (k : String) (vs : List String) (ls : Labels) :
    (⟨k, .NotIn, vs⟩ : Req).sat ls = true ↔ ∀ v, ls.get k = some v → v ∉ vs := by
  simp only [Req.sat]; cases ls.get k <;> simp
theorem sat_Exists (k : String) (vs : List String) (ls : Labels) :
    (⟨k, .Exists, vs⟩ : Req).sat ls = true ↔ (ls.get k).isSome = true := by
  simp [Req.sat]
theorem sat_DoesNotExist (k : String) (vs : List String) (ls : Labels) :
    (⟨k, .DoesNotExist, vs⟩ : Req).sat ls = true ↔ ls.get k = none := by
  simp [Req.sat]

/-- `Gt` and `Lt` differ in the last comparison only -/
theorem sat_cmp (k v : String) (ls : Labels) {op : SelOp} (hop : op = .Gt ∨ op = .Lt) :
    (⟨k, op, [v]⟩ : Req).sat ls = true ↔
      ∃ lv x n, ls.get k = some lv ∧ parseInt64 lv = some n ∧ parseInt64 v = some x ∧
        if op = .Gt then n > x else n < x := by
  constructor
  · intro h
    rcases hop with rfl | rfl <;> simp only [Req.sat] at h
    all_goals
      -- each `match` of `Matches` took its `some` branch
      split at h; · cases h
      split at h; · cases h
      split at h; · cases h
      rename_i _ lv h1 _ n h2 _ x h3
      exact ⟨lv, x, n, h1, h2, h3, by simpa using h⟩
  · rintro ⟨lv, x, n, h1, h2, h3, h4⟩
    rcases hop with rfl | rfl <;> simp only [Req.sat, h1, h2, h3] <;> simpa using h4

theorem sat_Gt (k v : String) (ls : Labels) :
    (⟨k, .Gt, [v]⟩ : Req).sat ls = true ↔
      ∃ lv x n, ls.get k = some lv ∧ parseInt64 lv = some n ∧ parseInt64 v = some x ∧ n > x :=
  sat_cmp k v ls (.inl rfl)
theorem sat_Lt (k v : String) (ls : Labels) :
    (⟨k, .Lt, [v]⟩ : Req).sat ls = true ↔
      ∃ lv x n, ls.get k = some lv ∧ parseInt64 lv = some n ∧ parseInt64 v = some x ∧ n < x :=
  sat_cmp k v ls (.inr rfl)

/-- the value normalisation `labels.Parse` performs (values as a sorted set) does not change which
label sets satisfy a requirement -/
theorem sat_normalize (r : Req) (ls : Labels) : r.normalize.sat ls = r.sat ls := by
  obtain ⟨k, op, vs⟩ := r
  have hm : ∀ v, v ∈ sortStrs (dedupStrs vs) ↔ v ∈ vs := fun v => by
    rw [(sortStrs_perm _).mem_iff, mem_dedupStrs]
  -- only `In` and `NotIn` are touched, and they look at the values through membership alone
  cases op
  case In => exact Bool.eq_iff_iff.mpr (by simp only [Req.normalize, sat_In, hm])
  case NotIn => exact Bool.eq_iff_iff.mpr (by simp only [Req.normalize, sat_NotIn, hm])
  all_goals rfl

/-- **a ClusterCIDR is considered for a node exactly when every requirement of its (flattened)
selector is satisfied by the node's labels**, and the count it reports is the number satisfied -/
theorem matchCIDR_iff (rs : List Req) (ls : Labels) :
    (matchCIDR rs ls).1 = true ↔ ∀ r ∈ rs, r.sat ls = true := by
  unfold matchCIDR
  simp only [beq_iff_eq]
  rw [List.length_filter_eq_length_iff]
  simp [sat_normalize]

theorem matchCIDR_count (rs : List Req) (ls : Labels) :
    (matchCIDR rs ls).2 = (rs.filter (fun r => r.sat ls)).length := by
  unfold matchCIDR
  simp [sat_normalize]

theorem mem_indexed {a : Alloc} {i : Nat} {c : CC} : (i, c) ∈ a.indexed ↔ a.get? i = some c := by
  unfold Alloc.indexed Alloc.get?
  constructor
  · intro h
    obtain ⟨⟨d, j⟩, hm, he⟩ := List.mem_map.mp h
    cases he
    exact List.mem_zipIdx_iff_getElem?.mp hm
  · exact fun h => List.mem_map.mpr ⟨(c, i), List.mem_zipIdx_iff_getElem?.mpr h, rfl⟩

/-- `orderedMatchingClusterCIDRs` lists exactly the mapped entries whose selector the labels satisfy or
that are filed under the catch-all key, without the terminating ones when it is an allocation -/
theorem mem_ordered {a : Alloc} {ls : Labels} {occupy : Bool} {i : Nat} :
    i ∈ a.ordered ls occupy ↔ ∃ c, a.get? i = some c ∧ (occupy = false ∨ c.term = false) ∧
      ((matchCIDR c.reqs ls).1 = true ∨ c.key = defaultKey) := by
  -- the two queues are permutations of what was pushed, and an item carries the position of its entry
  simp only [Alloc.ordered, List.mem_append, List.mem_map, (C07.pqSort_perm _).mem_iff, List.mem_filterMap,
    Prod.exists, mem_indexed, Option.ite_none_right_eq_some, Option.some.injEq, Bool.and_eq_true, beq_iff_eq,
    Bool.or_eq_true, Bool.not_eq_eq_eq_not, Bool.not_true]
  constructor
  · rintro (⟨_, ⟨j, c, hc, ⟨hm, ht⟩, rfl⟩, rfl⟩ | ⟨_, ⟨j, c, hc, ⟨hk, ht⟩, rfl⟩, rfl⟩)
    · exact ⟨c, hc, ht, .inl hm⟩
    · exact ⟨c, hc, ht, .inr hk⟩
  · rintro ⟨c, hc, ht, hm | hk⟩
    · exact .inl ⟨_, ⟨i, c, hc, ⟨hm, ht⟩, rfl⟩, rfl⟩
    · exact .inr ⟨_, ⟨i, c, hc, ⟨hk, ht⟩, rfl⟩, rfl⟩

/-- a ClusterCIDR without selector is filed under the catch-all key and is appended for every node:
it is in the ordered list whatever the labels (unless terminating during an allocation) -/
theorem selectorless_considered_for_every_node (a : Alloc) (ls : Labels) (i : Nat) (c : CC)
    (hc : a.ccs[i]? = some c) (hk : c.key = defaultKey) (ht : c.term = false) (occupy : Bool) :
    i ∈ a.ordered ls occupy :=
  mem_ordered.mpr ⟨c, hc, .inr ht, .inr hk⟩

/-- a selector that cannot be represented is rejected when the ClusterCIDR is created: nothing is
mapped, so allocation for other nodes is not disturbed -/
theorem unrepresentable_rejected (a : Alloc) (name : String) (spec : CCSpec) (t : Bool)
    (h : selectorOf spec.sel = none) : a.createCC name spec t = none := by
  unfold Alloc.createCC; rw [h]

/-- each ClusterCIDR is filed under the key printed from its own requirements -/
theorem filed_under_own_key (a a' : Alloc) (name : String) (spec : CCSpec) (t : Bool) (reqs : List Req)
    (hs : selectorOf spec.sel = some reqs) (h : a.createCC name spec t = some a') :
    ∃ c ∈ a'.ccs, c.name = name ∧ c.key = printSel reqs := by
  obtain ⟨reqs', hs', ⟨hm, rfl⟩ | ⟨_, c, hb, rfl⟩⟩ := Alloc.createCC_eq_some h <;> cases hs.symm.trans hs'
  · -- already mapped under this key and name
    obtain ⟨c, hc, hk, hn⟩ := Alloc.mapped_iff.mp hm
    exact ⟨c, hc, hn, hk⟩
  · obtain ⟨p4, p6, _, _, _, rfl⟩ := buildCC_eq_some hb
    exact ⟨_, List.mem_append_right _ (List.mem_singleton_self _), rfl, rfl⟩

/-! the full statement is false for the sentinel (P14): a user selector that prints as the sentinel is
filed with the selector-less ClusterCIDRs -/
theorem sentinel_collision :
    selectorOf (some [⟨[⟨"kubernetes.io/clusterCIDR", "In", ["default"], true, true⟩], []⟩]) = selectorOf none := by
  rfl

example : printSel (sortByKey [⟨"zone", .In, ["b", "a"]⟩, ⟨"gpu", .DoesNotExist, []⟩, ⟨"rack", .Gt, ["5"]⟩]) =
    "!gpu,rack>5,zone in (a,b)" := by decide +kernel
example : (matchCIDR [⟨"zone", .In, ["b", "a"]⟩, ⟨"rack", .Gt, ["5"]⟩] [("zone", "a"), ("rack", "7")]) = (true, 2) := by decide +kernel

end Ipam.C17
