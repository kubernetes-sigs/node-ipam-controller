import IpamVerif.AllocOrder
import IpamVerif.StepLemmas
import IpamVerif.Props.C02
import IpamVerif.Justified
import IpamVerif.BootLemmas
/-!
# C09 — pod CIDRs never overlap the configured service ranges

`filterOutServiceRange` occupies, in every pool of the service range's family that it meets, every block
it touches (C13's index range: inside / equal / containing / smaller than a block).  `allocateCIDR` never
returns a used block.  Hence, as long as those blocks stay used — they do along any continuation
consisting of allocations, the property's quantifier — no assignment meets the service range.
Entries without a pool of the service range's family are skipped (after the repair of
`associatedCIDRSet`; before it the model step was a nil dereference).
-/
namespace Ipam.C09

/-- all blocks of entry pools of the family that meet the service range are used -/
def Covered (a : Alloc) (svc : Cidr) : Prop :=
  ∀ i c p, a.get? i = some c → c.pool svc.fam = some p → ∀ k, k < p.max → ¬ (goBlock p.geo k).Disjoint svc → k ∈ p.used

/-- `occupyServiceCIDR` on one entry -/
theorem occupyService_covers (c : CC) (hwf : c.WF) (svc : Cidr) (hsvc : svc.WF) :
    (c.occupyService svc).WF ∧
    ∀ p, (c.occupyService svc).pool svc.fam = some p → ∀ k, k < p.max → ¬ (goBlock p.geo k).Disjoint svc → k ∈ p.used := by
  refine ⟨(CC.occupyService_le hwf hsvc).1, ?_⟩
  unfold CC.occupyService
  cases hp : c.pool svc.fam with
  | none => intro p h; rw [hp] at h; cases h
  | some p =>
    dsimp only
    have hok := hwf _ _ hp
    have hov := goOverlap_iff (Geo.range_WF hok.supported.1) hsvc hok.fam
    by_cases ho : goOverlap p.geo.range svc = true
    · -- the ranges intersect: `Occupy` succeeds and marks every block that meets the service range
      rw [if_pos ho]
      cases hocc : p.occupy svc with
      | none =>
        rcases (C14.occupy_refines hok.supported hok.inv hsvc).1.mp hocc with h | h
        · exact absurd hok.fam.symm h
        · exact absurd (Cidr.disjoint_comm.mp h) (hov.mp ho)
      | some p' =>
        rw [CC.occupy_of_pool rfl hp hocc]
        obtain ⟨_, hg, _, _, hm⟩ := (C14.occupy_refines hok.supported hok.inv hsvc).2 p' hocc
        intro q hq k hk hnd
        rw [CC.pool_setPool_same] at hq
        cases hq
        have hmax : p'.max = p.max := congrArg Geo.max hg
        exact (hm k).mpr (.inr ⟨hmax ▸ hk, hg ▸ hnd⟩)
    · -- a block of the range cannot meet a CIDR the range does not meet
      rw [if_neg ho]
      intro q hq k hk hnd
      rw [hp] at hq; cases hq
      exact absurd ((Decidable.not_not.mp (mt hov.mpr ho)).mono_left (C13.block_is_ith_subrange hok.supported hk).2.2) hnd

/-- **after `filterOutServiceRange` every block of every mapped pool that meets the service range is used** -/
theorem filterService_covers (a : Alloc) (ha : a.WF) (svc : Cidr) (hsvc : svc.WF) :
    (a.filterService svc).WF ∧ Covered (a.filterService svc) svc := by
  have hget : ∀ i c', (a.filterService svc).get? i = some c' → ∃ c, a.get? i = some c ∧ c' = c.occupyService svc := by
    intro i c' h
    rw [Alloc.get?_filterService] at h
    obtain ⟨c, hc, rfl⟩ := Option.map_eq_some_iff.mp h
    exact ⟨c, hc, rfl⟩
  constructor
  · intro i c' h
    obtain ⟨c, hc, rfl⟩ := hget i c' h
    exact (occupyService_covers c (ha i c hc) svc hsvc).1
  · intro i c' p h hp k hk hnd
    obtain ⟨c, hc, rfl⟩ := hget i c' h
    exact (occupyService_covers c (ha i c hc) svc hsvc).2 p hp k hk hnd

/-- **no allocation from a covered map meets the service range** -/
theorem allocation_avoids_service {a a' : Alloc} (ha : a.WF) {svc : Cidr} (hcov : Covered a svc)
    {i : Nat} {c : CC} {p : Pool} {blk : Cidr} (hget : a.get? i = some c) (hp : c.pool svc.fam = some p)
    (h : a.allocate i svc.fam = (a', some blk)) : blk.Disjoint svc := by
  have hok := ha i c hget _ p hp
  rcases allocate_exact hget hp hok with ⟨_, _, _, e⟩ | ⟨k, _, hk, hfree, _, _, e⟩ <;> cases h.symm.trans e
  false_or_by_contra; rename_i hnd
  exact hfree (hcov i c p hget hp k hk hnd)

/-- a block of the other family never meets the service range (different address families) -/
theorem other_family_disjoint {blk svc : Cidr} (h : blk.fam ≠ svc.fam) : goOverlap blk svc = false :=
  goOverlap_diff_fam h

/-- pools only grew (associations and flags may differ) -/
def PoolsLe (a a' : Alloc) : Prop :=
  a'.ccs.length = a.ccs.length ∧ ∀ j c, a.get? j = some c → ∃ c', a'.get? j = some c' ∧ ∀ g, OptPoolLe (c.pool g) (c'.pool g)

theorem PoolsLe.refl (a : Alloc) : PoolsLe a a := ⟨rfl, fun _ c h => ⟨c, h, fun _ => OptPoolLe.refl _⟩⟩
theorem PoolsLe.trans {a b c : Alloc} (h1 : PoolsLe a b) (h2 : PoolsLe b c) : PoolsLe a c := by
  refine ⟨h2.1.trans h1.1, ?_⟩
  intro j x hx
  obtain ⟨y, hy, hxy⟩ := h1.2 j x hx
  obtain ⟨z, hz, hyz⟩ := h2.2 j y hy
  exact ⟨z, hz, fun g => OptPoolLe.trans (hxy g) (hyz g)⟩
theorem PoolsLe.of_le {a a' : Alloc} (h : AllocLe a a') : PoolsLe a a' :=
  ⟨h.1, fun j c hc => let ⟨c', h1, h2⟩ := h.2 j c hc; ⟨c', h1, h2.pool⟩⟩

theorem PoolsLe_set {a : Alloc} {i : Nat} {c c' : CC} (hget : a.get? i = some c)
    (hle : ∀ g, OptPoolLe (c.pool g) (c'.pool g)) : PoolsLe a (a.set i c') := by
  refine ⟨by simp, ?_⟩
  intro j d hd
  by_cases hij : i = j
  · subst hij; rw [hget] at hd; cases hd
    exact ⟨c', Alloc.get?_set_self _ _ _ _ hget, hle⟩
  · exact ⟨d, by rw [Alloc.get?_set_ne _ _ _ _ hij]; exact hd, fun g => OptPoolLe.refl _⟩

/-- the cover of a service range survives any growth of the pools -/
theorem Covered_of_poolsLe {a a' : Alloc} {svc : Cidr} (h : PoolsLe a a') (hc : Covered a svc) : Covered a' svc := by
  intro j c' p' hj hp k hk hnd
  obtain ⟨c, hcj⟩ := a.get?_some_of_lt j (h.1 ▸ a'.lt_of_get?_some j c' hj)
  obtain ⟨c'', hj'', hle⟩ := h.2 j c hcj
  cases hj.symm.trans hj''
  obtain ⟨p, hq, hpl⟩ := (hp ▸ hle svc.fam).some_right
  have hmax : p'.max = p.max := congrArg Geo.max hpl.1
  exact hpl.2.2 k (hc j c p hcj hq k (hmax ▸ hk) (hpl.1 ▸ hnd))

/-- allocations keep the service blocks used: `allocateCIDR` only adds to the used sets -/
theorem allocate_keeps_covered {a a' : Alloc} (ha : a.WF) {svc : Cidr} (hcov : Covered a svc)
    {i : Nat} {f : Fam} {c : CC} {p : Pool} {r : Option Cidr} (hget : a.get? i = some c) (hp : c.pool f = some p)
    (h : a.allocate i f = (a', r)) : Covered a' svc :=
  have hle : AllocLe a a' := by
    have ho : OptPoolLe (some p) (c.pool f) := hp ▸ OptPoolLe.refl _
    cases r with
    | none => exact ((AllocFam.failed h).attempt ha hget ho : AllocEqv a a' ∧ _).1.1
    | some b => exact ((AllocFam.served h).attempt ha hget ho : Grown a a' i [b]).le
  Covered_of_poolsLe (PoolsLe.of_le hle) hcov

/-- whatever `prioritizedCIDRs` reserves avoids a covered service range -/
theorem prioritized_avoids_service {a : Alloc} (ha : a.WF) {svc : Cidr} (hsvc : svc.WF) (hcov : Covered a svc)
    (l : List Nat) {a' : Alloc} {cidrs : List Cidr} {i : Nat} (h : a.prioritized l = (a', some (cidrs, i))) :
    ∀ b ∈ cidrs, goOverlap b svc = false := by
  intro b hb
  obtain ⟨⟨c, hc, p, k, hp, hk, rfl⟩, hnb⟩ := (prioritized_attempt ha l h).2.fresh b hb
  have hok := ha i c hc _ p hp
  by_cases hf : svc.fam = (goBlock p.geo k).fam
  · -- a block that met the service range would be in use, and the overlap check finds a pool's own used blocks
    refine Bool.eq_false_iff.mpr fun ho => Bool.false_ne_true (hnb.symm.trans ?_)
    exact (Unavail_iff_blocked hc hp hok hk).mp (.inl (hcov i c p hc (hf ▸ hp) k hk
      ((goOverlap_iff (goBlock_WF hok hk) hsvc hf.symm).mp ho)))
  · exact goOverlap_diff_fam fun e => hf e.symm

/-! ### the controller level -/

/-- every configured service range is covered -/
def CoveredAll (s : Sys) : Prop := ∀ svc ∈ s.svcs, svc.WF ∧ Covered s.alloc svc

/-- **no PATCH of a node item meets a configured service range** — for every ClusterCIDR mapped, whatever the
relative sizes of service range, ClusterCIDR range and per-node block, whatever the write outcomes -/
theorem item_patches_avoid_service (s : Sys) (hwf : s.alloc.WF) (hcov : CoveredAll s) (n : NodeObj) (refresh : Bool)
    (ws : List WOut) :
    ∀ p ∈ (allocateOrOccupy s n refresh ws).2.patches, ∀ b ∈ p.2.1, ∀ svc ∈ s.svcs, goOverlap b svc = false := by
  intro p hp b hb svc hsvc
  have hne : (allocateOrOccupy s n refresh ws).2.patches ≠ [] := fun h => by rw [h] at hp; cases hp
  obtain ⟨al, cidrs, i, hpr, hall⟩ := C02.patch_comes_from_one_entry s n refresh ws hne
  have := (hall p hp).2
  rw [this] at hb
  exact prioritized_avoids_service hwf (hcov svc hsvc).1 (hcov svc hsvc).2 _ hpr b hb

/-- **an allocation item keeps every service range covered** (used sets only grow or are restored) -/
theorem item_keeps_covered (s : Sys) (hwf : s.alloc.WF) (hcov : CoveredAll s) (n : NodeObj) (refresh : Bool)
    (ws : List WOut) (hn : n.hasCidrs = false)
    (hr : refresh = true → (getNode s.api.nodes n.name).isSome = true) : CoveredAll (allocateOrOccupy s n refresh ws).1 := by
  intro svc hsvc
  rw [(allocateOrOccupy_item s n refresh ws).svcs] at hsvc
  refine ⟨(hcov svc hsvc).1, ?_⟩
  rcases C04.item_keeps_only_justified_reservations s hwf n refresh ws hn hr with h | ⟨al, cidrs, i, hpr, _, h⟩
  · exact Covered_of_poolsLe (PoolsLe.of_le h.1) (hcov svc hsvc).2
  · have hle := (prioritized_attempt hwf _ hpr).2.le
    have hcal := Covered_of_poolsLe (PoolsLe.of_le hle) (hcov svc hsvc).2
    rcases h with h | ⟨c, hc, h⟩
    · rw [h]; exact hcal
    · rw [h]
      -- recording the association touches no pool
      exact Covered_of_poolsLe (PoolsLe_set hc fun g => c.addAssoc_pool n.name g ▸ OptPoolLe.refl _) hcal

/-- a range field the model's theorems cover: a parsed CIDR as Go delivers it, not the single 2^32-block geometry -/
def FieldOK (fld : RangeField) (hb : Int) : Prop :=
  match fld with
  | .ok c _ => c.WF ∧ ¬ (c.fam = .v4 ∧ c.len = 0 ∧ hb = 0)
  | _ => True

def SpecOK (sp : CCSpec) : Prop := FieldOK sp.ipv4 sp.hostBits ∧ FieldOK sp.ipv6 sp.hostBits

theorem buildPool_ok {fld : RangeField} {want : Fam} {hb : Int} {p : Pool} (hf : FieldOK fld hb)
    (h : buildPool fld want hb = some (some p)) : PoolOK want p := by
  obtain ⟨c, label, g, rfl, hfam, hg, rfl⟩ := buildPool_eq_some h
  obtain ⟨hcw, hnot⟩ := hf
  obtain ⟨hb0, hlen, _, hgeo⟩ := newGeo_eq_some hg
  refine ⟨Pool.new_inv g label, ⟨C13.newGeo_valid hcw hg, ?_⟩, hgeo ▸ hfam⟩
  -- capacity below 2^32 unless IPv6
  subst hgeo
  cases hcf : c.fam with
  | v6 => exact .inr rfl
  | v4 =>
    refine .inl (Nat.pow_lt_pow_right (by decide) ?_)
    have hW : c.W = 32 := congrArg Fam.W hcf
    have hl := hcw.1
    have : ¬ (c.len = 0 ∧ hb = 0) := fun hh => hnot ⟨hcf, hh.1, hh.2⟩
    show ((c.W : Int) - hb).toNat - c.len < 32
    omega

theorem buildCC_WF {key : String} {reqs : List Req} {name : String} {spec : CCSpec} {t : Bool} {c : CC}
    (hs : SpecOK spec) (h : buildCC key reqs name spec t = some c) : c.WF := by
  obtain ⟨p4, p6, h4, h6, _, rfl⟩ := buildCC_eq_some h
  intro f p hp
  cases f with
  | v4 => cases (show p4 = some p from hp); exact buildPool_ok hs.1 h4
  | v6 => cases (show p6 = some p from hp); exact buildPool_ok hs.2 h6

theorem createCC_WF {a a' : Alloc} (ha : a.WF) {name : String} {spec : CCSpec} {t : Bool} (hs : SpecOK spec)
    (h : a.createCC name spec t = some a') : a'.WF := by
  obtain ⟨reqs, _, h⟩ := Alloc.createCC_eq_some h
  rcases h with ⟨_, rfl⟩ | ⟨_, c, hb, rfl⟩
  · exact ha
  · exact Alloc.WF_append ha (buildCC_WF hs hb)

/-- all service ranges of a start-up are covered after the fold of `filterOutServiceRange` -/
theorem filterAll_covers : ∀ (svcs : List Cidr) (a : Alloc), a.WF → (∀ s ∈ svcs, s.WF) →
    (svcs.foldl (fun a sv => a.filterService sv) a).WF ∧
    (∀ s ∈ svcs, Covered (svcs.foldl (fun a sv => a.filterService sv) a) s) ∧
    PoolsLe a (svcs.foldl (fun a sv => a.filterService sv) a) := by
  intro svcs
  induction svcs with
  | nil => intro a ha _; exact ⟨ha, by simp, PoolsLe.refl a⟩
  | cons sv rest ih =>
    intro a ha hw
    have hsv := hw sv (List.mem_cons_self ..)
    obtain ⟨hwf1, hcov1⟩ := filterService_covers a ha sv hsv
    obtain ⟨hwf2, hcov2, hle2⟩ := ih (a.filterService sv) hwf1 (fun s hs => hw s (List.mem_cons_of_mem _ hs))
    simp only [List.foldl_cons]
    refine ⟨hwf2, ?_, PoolsLe.trans (PoolsLe.of_le (filterService_le ha hsv)) hle2⟩
    intro s hs
    rcases List.mem_cons.mp hs with rfl | hs
    · exact Covered_of_poolsLe hle2 hcov1
    · exact hcov2 s hs

/-- recording an existing node's pod CIDRs only adds to the pools -/
theorem occupyNode_poolsLe (name : String) (cidrs : List Cidr) (hw : ∀ cd ∈ cidrs, cd.WF) :
    ∀ (l : List Nat) (a : Alloc), a.WF → (a.occupyNode name cidrs l).1.WF ∧ PoolsLe a (a.occupyNode name cidrs l).1 := by
  intro l
  induction l with
  | nil => intro a ha; exact ⟨ha, PoolsLe.refl a⟩
  | cons i rest ih =>
    intro a ha
    unfold Alloc.occupyNode
    cases hg : a.get? i with
    | none => simp only; exact ih a ha
    | some c =>
      simp only
      obtain ⟨hwf', hle'⟩ := CC.occupyList_le cidrs c (ha i c hg) hw
      cases hr : c.occupyList cidrs with
      | mk c' okk =>
        rw [hr] at hwf' hle'
        cases okk with
        | true =>
          exact ⟨Alloc.WF_set ha (CC.addAssoc_WF hwf' name),
            PoolsLe_set hg fun g => c'.addAssoc_pool name g ▸ hle'.pool g⟩
        | false =>
          obtain ⟨h2, h3⟩ := ih (a.set i c') (Alloc.WF_set ha hwf')
          exact ⟨h2, PoolsLe.trans (PoolsLe.of_le (AllocLe.set hg hle')) h3⟩

theorem occupyCIDRs_poolsLe (a : Alloc) (ha : a.WF) (n : NodeObj) (hw : ∀ cd ∈ n.cidrs, cd.WF) :
    (occupyCIDRs a n).1.WF ∧ PoolsLe a (occupyCIDRs a n).1 := by
  unfold occupyCIDRs
  simp only
  split
  · exact ⟨ha, PoolsLe.refl a⟩
  · split
    · exact ⟨ha, PoolsLe.refl a⟩
    · exact occupyNode_poolsLe n.name n.cidrs hw _ a ha

theorem bootNodes_poolsLe (l : List NodeObj) (a : Alloc) (ha : a.WF) (hw : ∀ n ∈ l, ∀ cd ∈ n.cidrs, cd.WF) :
    (bootNodes a l).WF ∧ PoolsLe a (bootNodes a l) :=
  bootNodes_induct (P := fun a' => a'.WF ∧ PoolsLe a a')
    (fun al n hn _ _ h => ⟨(occupyCIDRs_poolsLe al h.1 n (hw n hn)).1, h.2.trans (occupyCIDRs_poolsLe al h.1 n (hw n hn)).2⟩)
    a ⟨ha, PoolsLe.refl a⟩

theorem createClusterCIDR_WF (s : Sys) (hs : s.alloc.WF) (o : CCObj) (ho : SpecOK o.spec) (t : Bool) (w : WOut) :
    (createClusterCIDR s o t w).1.alloc.WF := by
  unfold createClusterCIDR
  split
  · exact hs
  · exact createCC_WF hs ho ‹_›

theorem bootCCs_WF (l : List CCObj) (s : Sys) (ws : List WOut) (acc : List (String × List String × String))
    (hs : s.alloc.WF) (hl : ∀ o ∈ l, SpecOK o.spec) : (bootCCs s l ws acc).1.alloc.WF :=
  bootCCs_induct (P := fun t => t.alloc.WF) (fun t o w ho h => createClusterCIDR_WF t h o (hl o ho) _ w) s ws acc hs

/-- **start-up covers every configured service range in every ClusterCIDR known at that time** -/
theorem boot_covers (s : Sys) (svcs : List Cidr) (ws : List WOut)
    (hspecs : ∀ o ∈ s.api.ccs, SpecOK o.spec) (hsvcs : ∀ sv ∈ svcs, sv.WF)
    (hnodes : ∀ n ∈ s.api.nodes, ∀ cd ∈ n.cidrs, cd.WF) :
    (boot s svcs ws).1.alloc.WF ∧ CoveredAll (boot s svcs ws).1 := by
  have h1 := bootCCs_WF (sortCCObjs s.api.ccs) (bootStart s svcs) ws [] (fun j c h => by simp [Alloc.get?] at h)
    (fun o ho => hspecs o (mem_sortCCObjs _ _ ho))
  obtain ⟨h4, h5, _⟩ := filterAll_covers svcs _ h1 hsvcs
  obtain ⟨h7, h8⟩ := bootNodes_poolsLe (sortNodeObjs s.api.nodes) _ h4 (fun n hn => hnodes n (mem_sortNodeObjs _ _ hn))
  refine ⟨h7, fun sv hsv => ?_⟩
  rw [boot_svcs] at hsv
  exact ⟨hsvcs sv hsv, Covered_of_poolsLe h8 (h5 sv hsv)⟩

/-- non-vacuity: a state with a ClusterCIDR, a node holding one of its blocks and a service range inside
it meets the hypotheses of `boot_covers` -/
example :
    let cc : CCObj := ⟨"cc", ⟨none, 4, .ok ⟨.v4, 167772160, 24⟩ "10.0.0.0/24", .empty⟩, [], false, 1, 1⟩
    let nd : NodeObj := ⟨"n", [], [⟨.v4, 167772160 + 32, 28⟩], false, false⟩
    let s : Sys := { (Sys.init) with api := { (Sys.init).api with ccs := [cc], nodes := [nd] } }
    (∀ o ∈ s.api.ccs, SpecOK o.spec) ∧ (∀ sv ∈ [(⟨.v4, 167772160, 26⟩ : Cidr)], sv.WF) ∧
    (∀ n ∈ s.api.nodes, ∀ cd ∈ n.cidrs, cd.WF) := by
  refine ⟨?_, ?_, ?_⟩
  · intro o ho
    simp only [List.mem_singleton] at ho
    subst ho
    exact ⟨⟨by decide, by decide⟩, trivial⟩
  · intro sv hsv
    simp only [List.mem_singleton] at hsv
    subst hsv; decide
  · intro n hn cd hcd
    simp only [List.mem_singleton] at hn
    subst hn
    simp only [List.mem_singleton] at hcd
    subst hcd; decide

end Ipam.C09
