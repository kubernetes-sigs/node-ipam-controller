import IpamVerif.Lock
import IpamVerif.Facts
/-!
# C16 — shared state is touched only under the lock, and the lock cannot self-deadlock

`Facts.graph` is regenerated from /repo's source on every run (translator `harness/cmd/factgen`:
functions and closures of package `ipam`, static call edges, lock prologues, any other lock operation,
accesses to `cidrMap` / `AssociatedNodes` / `Terminating` / pools, entry points).  `checker_accepts` is
re-checked by the Lean kernel against the table as it is now (`decide +kernel` on `checkerBy`, which
`Lock.lean` proves equal to `checker` for all tables: kernel reduction, no extra axiom); with the soundness
theorems of `Lock.lean` (proved once, for all tables) this gives, for every call path of the package and
not only for the paths some run takes:
* `no_unlocked_access`: a function reachable from an entry point without passing through a lock-holding
  body touches the shared reservation state only if it holds the lock for its whole body;
* `no_self_deadlock`: nothing reachable from inside a lock-holding body acquires the lock (one
  non-reentrant mutex, so this is the only way to block forever on it).
Construction-time code is exempt as the property says.  Limits: call resolution is static and syntactic;
calls through `container/heap` are added explicitly; anything the extractor does not understand (a lock
operation outside the `Lock(); defer Unlock()` prologue, a `go` statement of unknown shape, the lock
copied) is an `unknown` fact and makes the checker false.
-/
namespace Ipam.C16
open Ipam.Lock

theorem checker_accepts : checker Facts.graph = true := by rw [checker_eq_fast]; decide +kernel

/-- every function that can be reached from a worker, an informer callback or the public interface without
holding the lock, and touches the shared state, holds the lock for its whole body -/
theorem no_unlocked_access (n : String) (hr : ReachU Facts.graph n) (f : Fn)
    (hl : Facts.graph.lookup n = some f) (ht : f.touches = true) : f.holdsLock = true :=
  checker_sound_touch Facts.graph checker_accepts n hr f hl ht

/-- no function reachable from inside a lock-holding body acquires the lock again -/
theorem no_self_deadlock (n : String) (hr : ReachL Facts.graph n) (f : Fn)
    (hl : Facts.graph.lookup n = some f) : f.acquires = false :=
  checker_sound_no_reacquire Facts.graph checker_accepts n hr f hl

/-- the extractor understood every function body of the package -/
theorem everything_understood : ∀ f ∈ Facts.graph.fns, f.unknown = false :=
  checker_no_unknown Facts.graph checker_accepts

/-- non-vacuity: the five locking entry points are in the table and hold the lock; the worker loops and
handler closures are entry points -/
example : (Facts.graph.fns.filter (·.holdsLock)).map (·.name) =
    ["multiCIDRRangeAllocator.AllocateOrOccupyCIDR", "multiCIDRRangeAllocator.ReleaseCIDR",
     "multiCIDRRangeAllocator.reconcileBootstrap", "multiCIDRRangeAllocator.reconcileCreate",
     "multiCIDRRangeAllocator.reconcileDelete"] := rfl
example : "multiCIDRRangeAllocator.runNodeWorker" ∈ rootsU Facts.graph := by decide +kernel
example : "multiCIDRRangeAllocator.updateCIDRsAllocation" ∈ closureL Facts.graph :=
  startL_sub_closureL checker_accepts (by decide +kernel)

end Ipam.C16
