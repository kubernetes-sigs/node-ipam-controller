import IpamVerif.AllocLemmas
import IpamVerif.System
import IpamVerif.Props.C11
/-!
# C05 — a node is refused only when no eligible ClusterCIDR has room

* pool level (from `allocate_exact`, proved in `AllocLemmas` by an invariant of the loop of
  `allocateCIDR`: after `evaluated` rounds the `evaluated` indices that cyclically follow the initial
  cursor are all unavailable; uses C14's facts about `NextCandidate`): the allocation from a pool fails
  **iff** every block of the pool overlaps a block in use in some pool of the family;
* entry level: an entry is skipped iff one of its families fails in that sense;
* list level: the node is refused iff every entry of the ordered list is skipped;
* a refusal is an error (so the item is retried, C11) and records `CIDRNotAvailable`; otherwise the
  PATCH is attempted in the same item.
-/
namespace Ipam.C05

theorem pool_refuses_iff_all_blocked {a : Alloc} {i : Nat} {f : Fam} {c : CC} {p : Pool}
    (hget : a.get? i = some c) (hp : c.pool f = some p) (hok : PoolOK f p) :
    (a.allocate i f).2 = none ↔ ∀ k, k < p.max → a.blocked (goBlock p.geo k) = true := by
  rcases allocate_exact hget hp hok with ⟨_, _, hall, e⟩ | ⟨k, _, hk, _, hnb, _, e⟩ <;> rw [e]
  · exact iff_of_true rfl fun k hk => (Unavail_iff_blocked hget hp hok hk).mp (hall k hk)
  · exact iff_of_false nofun fun hall => Bool.false_ne_true (hnb.symm.trans (hall k hk))

/-- the block handed out is free of overlap with everything in use -/
theorem pool_serves_free_block {a a' : Alloc} {i : Nat} {f : Fam} {c : CC} {p : Pool} {blk : Cidr}
    (hget : a.get? i = some c) (hp : c.pool f = some p) (hok : PoolOK f p)
    (h : a.allocate i f = (a', some blk)) :
    ∃ k, k < p.max ∧ blk = goBlock p.geo k ∧ a.blocked blk = false := by
  rcases allocate_exact hget hp hok with ⟨_, _, _, e⟩ | ⟨k, _, hk, _, hnb, _, e⟩ <;> cases h.symm.trans e
  exact ⟨k, hk, rfl, hnb⟩

/-- **entry level**: an entry is skipped exactly when its IPv4 pool refuses, or (IPv4 served or absent)
its IPv6 pool refuses -/
theorem entry_skipped_iff (a : Alloc) (i : Nat) (c : CC) (hget : a.get? i = some c) :
    (a.tryEntry i).2 = none ↔
      ((c.v4.isSome ∧ (a.allocate i .v4).2 = none) ∨
       (c.v6.isSome ∧ ((c.v4.isNone ∧ (a.allocate i .v6).2 = none) ∨
          (c.v4.isSome ∧ (a.allocate i .v4).2.isSome ∧ ((a.allocate i .v4).1.allocate i .v6).2 = none)))) := by
  have ht := Alloc.tryEntry_cases hget
  generalize a.tryEntry i = r at ht
  cases ht with
  | skip4 h4 =>
    generalize hv4 : c.v4 = o4 at h4
    cases h4 with | failed hal => simp [hal]
  | served h4 h6 =>
    generalize hv4 : c.v4 = o4 at h4
    generalize hv6 : c.v6 = o6 at h6
    cases h4 with
    | absent => cases h6 with
      | absent => simp
      | served hal6 => simp [hal6]
    | served hal4 => cases h6 with
      | absent => simp [hal4]
      | served hal6 => simp [hal4, hal6]
  | skip6 h4 h6 =>
    generalize hv4 : c.v4 = o4 at h4
    generalize hv6 : c.v6 = o6 at h6
    cases h6 with
    | failed hal6 => cases h4 with
      | absent => simp [hal6]
      | served hal4 => simp [hal4, hal6]

/-- **list level**: the node is refused iff every entry of the ordered list is skipped (each in the state
left by the attempts before it) -/
theorem refused_iff_all_skipped : ∀ (l : List Nat) (a : Alloc),
    (a.prioritized l).2 = none ↔
      ∀ pre j post, l = pre ++ j :: post → ((pre.foldl (fun s k => (s.tryEntry k).1) a).tryEntry j).2 = none := by
  intro l
  induction l with
  | nil => intro a; simp [Alloc.prioritized]
  | cons j rest ih =>
    intro a
    unfold Alloc.prioritized
    cases ht : a.tryEntry j with
    | mk a1 r =>
      cases r with
      | some cidrs =>
        simp only
        constructor
        · intro h; cases h
        · intro h
          have := h [] j rest rfl
          simp only [List.foldl_nil, ht] at this
          cases this
      | none =>
        simp only
        rw [ih a1]
        constructor
        · intro h pre k post hl
          cases pre with
          | nil =>
            simp only [List.nil_append, List.cons.injEq] at hl
            obtain ⟨rfl, rfl⟩ := hl
            simp only [List.foldl_nil, ht]
          | cons x pre' =>
            simp only [List.cons_append, List.cons.injEq] at hl
            obtain ⟨rfl, hl⟩ := hl
            simp only [List.foldl_cons, ht]
            exact h pre' k post hl
        · intro h pre k post hl
          have := h (j :: pre) k post (by rw [hl]; rfl)
          simpa only [List.foldl_cons, ht] using this

/-- a refusal is reported as an error and as a `CIDRNotAvailable` event, and nothing is written;
otherwise a PATCH of the reserved CIDRs is attempted in the same item (`updateCIDRsAllocation`) -/
theorem refusal_reported (s : Sys) (n : NodeObj) (refresh : Bool) (ws : List WOut) (hn : n.hasCidrs = false) :
    ((s.alloc.prioritized (s.alloc.ordered n.labels true)).2 = none →
        (allocateOrOccupy s n refresh ws).2.res = "err" ∧
        (allocateOrOccupy s n refresh ws).2.events = ["CIDRNotAvailable"] ∧
        (allocateOrOccupy s n refresh ws).2.patches = []) :=
  fun h => C11.refusal_is_error s n refresh ws hn _ (Prod.ext rfl h)

/-- "so the node is retried": in the program text the error branch of the node worker loop re-queues the
key as a statement of its own — not under a retry budget or an error class — and only the success path
forgets it (regenerated fact, `Props/C11`) -/
theorem refused_node_is_queued_again :
    ("processNextNodeWorkItem", true, true) ∈ Facts.workerLoops := by
  rw [C11.workerLoopsRequeue]; exact .tail _ (.head _)

end Ipam.C05
