import IpamVerif.Tight
import IpamVerif.Restart
/-!
# C04 — blocks are withheld only while something in the cluster justifies it

**Proved over whole histories, on the fragment of `Safety.lean`** (`withheld_only_while_justified`, from
`Tight.lean`): at every moment a block in use is a pod CIDR of an existing node, or of a deleted node whose
delete notification is still to come, or meets a service range.  **With restarts at any instant**
(`withheld_only_while_justified_with_restarts`, `after_restart_only_justified`, from `Restart.lean`): the same, and
right after a restart nothing but the listed holders' CIDRs and the service ranges is in use — whatever the crashed
incarnation had reserved or leaked is free.  **Proved with no assumption on the history**
(`Justified.lean`): reserve-then-release restores the pool, a refused or failed attempt reserves nothing, every
release branch of `updateCIDRsAllocation`, what one allocation item may keep.  **Outside the fragment** blocks do
leak on the pinned code: findings P8 P11 P17b P19 P21 (witnesses replayed on every run), and P13 for lost writes.
-/
namespace Ipam.C04

/-- `Tight` in the words of the property; a deleted node that is still recorded is still in the cache (`Inv.pend`) -/
theorem justified_of_tight {s : Sys} (hI : Safety.Inv s) (hT : Safety.Tight s) :
    ∀ j cd, Safety.UsedAt s.alloc j cd →
      (∃ v ∈ s.api.nodes, cd ∈ v.cidrs) ∨
      (∃ v ∈ s.api.graves, cd ∈ v.cidrs ∧ ∃ w ∈ s.nodeView, w.name = v.name) ∨
      (∃ svc ∈ s.svcs, ¬ cd.Disjoint svc) := by
  intro j cd hu
  rcases hT j cd hu with ⟨x, hcx, v, hvm, hvn, hcd⟩ | hsvc
  · rcases List.mem_append.mp hvm with hvm | hvm
    · exact Or.inl ⟨v, hvm, hcd⟩
    · obtain ⟨w, hw, hwn⟩ := hI.pend j x hcx
      exact Or.inr (Or.inl ⟨v, hvm, hcd, w, hw, hwn.trans hvn.symm⟩)
  · exact Or.inr (Or.inr hsvc)

/-- **C04 over whole histories, on the fragment of `Safety.lean`** (ClusterCIDRs with disjoint ranges, no restart, no
node write that is applied but reported as failed, …): at every moment of every such history, a block that is in use
— unavailable for allocation — is a pod CIDR of an existing node, or of a deleted node whose delete notification
has not been delivered yet (it is still in the controller's cache), or it meets a configured service range.  Blocks
of nodes whose deletion has been delivered, and blocks reserved by attempts that did not end in a successful node
update, are free again. -/
theorem withheld_only_while_justified (s : Sys) (hs : Safety.Inv s) (hT : Safety.Tight s) (evs : List Ev)
    (hf : Safety.FragAll s evs) :
    ∀ j cd, Safety.UsedAt (run s evs).alloc j cd →
      (∃ v ∈ (run s evs).api.nodes, cd ∈ v.cidrs) ∨
      (∃ v ∈ (run s evs).api.graves, cd ∈ v.cidrs ∧ ∃ w ∈ (run s evs).nodeView, w.name = v.name) ∨
      (∃ svc ∈ (run s evs).svcs, ¬ cd.Disjoint svc) :=
  justified_of_tight (Safety.inv_run evs s hs hf) (Safety.tight_run evs s hs hT hf)

/-- **C04 on the fragment with restarts** -/
theorem withheld_only_while_justified_with_restarts (s : Sys) (hs : Restart.Inv4 s) (evs : List Ev)
    (hf : Restart.Frag3All s evs) :
    ∀ j cd, Safety.UsedAt (run s evs).alloc j cd →
      (∃ v ∈ (run s evs).api.nodes, cd ∈ v.cidrs) ∨
      (∃ v ∈ (run s evs).api.graves, cd ∈ v.cidrs ∧ ∃ w ∈ (run s evs).nodeView, w.name = v.name) ∨
      (∃ svc ∈ (run s evs).svcs, ¬ cd.Disjoint svc) :=
  justified_of_tight (Restart.inv4_run evs s hs hf).inv3.inv (Restart.inv4_run evs s hs hf).tight

/-- right after a restart: only pod CIDRs of listed nodes and blocks meeting a service range are in use -/
theorem after_restart_only_justified {s : Sys} (h : Restart.Inv3 s) (svcs : List Cidr) (ws : List WOut)
    (hf : Restart.Frag3 s (.boot svcs ws)) :
    ∀ j cd, Safety.UsedAt (boot s svcs ws).1.alloc j cd →
      (∃ v ∈ (boot s svcs ws).1.api.nodes, cd ∈ v.cidrs) ∨ (∃ svc ∈ (boot s svcs ws).1.svcs, ¬ cd.Disjoint svc) := by
  intro j cd hu
  obtain ⟨⟨a1, hbn⟩, _⟩ := Restart.boot_exact h.inv h.cci svcs ws hf.1 hf.2.1 hf.2.2
  rcases hbn.tight j cd hu with ⟨x, _, v, hv, _, hcd⟩ | hs
  · exact Or.inl ⟨v, by rw [boot_nodes]; exact mem_sortNodeObjs _ _ hv, hcd⟩
  · exact Or.inr (by rw [boot_svcs]; exact hs)

/-- the hypotheses of the theorems with restarts are satisfiable -/
example : Restart.Inv4 Restart.exStart3 := ⟨Restart.exStart3_inv3, Safety.tight_init _ (by
  rintro j cd ⟨c, p, k, hg, _⟩
  simp [Alloc.get?, Restart.exStart3, Sys.init] at hg)⟩

end Ipam.C04
