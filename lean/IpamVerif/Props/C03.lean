import IpamVerif.BootBasics
import IpamVerif.Restart
/-!
# C03 — a restart at any instant loses no assignment and resurrects none

**Proved, for every history of the fragment with restarts (`restarts_keep_everything`).**  `Restart.Inv3` — the
invariant of `Safety.lean` (C01) together with a tie between every mapped entry and a ClusterCIDR object from which
it can be rebuilt — holds in the start state, is preserved by every event of the fragment *and by a restart at any
instant* (`Restart.inv_boot`: the pools are rebuilt from the listed objects, every listed node that exists, is not
being deleted and has pod CIDRs is recorded again in exactly one entry, nothing else is recorded).  Consequences,
for unbounded histories with any number of restarts:

* `no_overlap_across_restarts` — no pod CIDR held by an existing node is handed out again, before or after any restart;
* `restart_records_every_holder` — right after a restart every holder is associated with exactly one entry, all its
  pod CIDRs in use there;
* `restart_forgets_unwritten_reservations`, `after_restart_only_justified_blocks_are_used` — whatever the crashed
  incarnation had reserved without writing it is free: every association after the restart belongs to a listed node,
  every block in use is a pod CIDR of such a node or meets a service range;
* `crash_after_node_write` — a node item with *any* write outcomes, also writes applied although the controller saw
  an error (the crash point "between a successful write and recording it"), followed by a restart, ends in a state
  satisfying the invariant.  (Without the restart that outcome is finding P13.)
* crash points are ordinary histories (`crash_points_are_histories`), the new incarnation is a function of the API
  state alone (`boot_memoryless`, `boot_depends_on_api_only`).

The fragment (`Restart.Frag3`) = the fragment of `Safety.lean` plus `boot` at any instant (service ranges as Go
parses them, ClusterCIDR objects with pairwise disjoint ranges), minus three things: a ClusterCIDR is deleted only
once the controller's finalizer is on it or before the controller has seen it (P15 otherwise), its generation is not
bumped (an edited ClusterCIDR is rebuilt as terminating and its holders are not recorded — by design of
`reconcileBootstrap`, judged under the envelope clause `generation-bumped`), and a ClusterCIDR name is re-used only
once the cache has dropped it.

**Found on the way and repaired**: P25 — start-up recorded the pod CIDRs of nodes that were being deleted, although
they are released as soon as the deletion timestamp is seen; see `known-findings.json`.
Outside the fragment the property is false on the pinned code: P10, P12, P23 (witnesses replayed on every run).
-/
namespace Ipam.C03
open Ipam.Safety Ipam.Restart

/-- **C03 on the fragment**: the invariant survives every event, restarts included -/
theorem restarts_keep_everything (s : Sys) (hs : Inv3 s) (evs : List Ev) (hf : Frag3All s evs) : Inv3 (run s evs) :=
  inv3_run evs s hs hf

/-- no CIDR held by an existing node is handed out again, at any moment of any history with restarts -/
theorem no_overlap_across_restarts (s : Sys) (hs : Inv3 s) (evs : List Ev) (hf : Frag3All s evs) :
    ∀ x ∈ (run s evs).api.nodes, ∀ y ∈ (run s evs).api.nodes, x.name ≠ y.name → x.deleting = false → y.deleting = false →
      ∀ a ∈ x.cidrs, ∀ b ∈ y.cidrs, a.fam = b.fam → a.Disjoint b :=
  Restart.no_overlap_across_restarts s hs evs hf

/-- right after a restart every existing holder is recorded, in exactly one entry -/
theorem restart_records_every_holder {s : Sys} (h : Inv3 s) (svcs : List Cidr) (ws : List WOut) (hf : Frag3 s (.boot svcs ws)) :
    ∀ v ∈ (boot s svcs ws).1.api.nodes, v.deleting = false → v.cidrs ≠ [] →
      ∃ i, Claims (boot s svcs ws).1.alloc v.name i ∧ (∀ cd ∈ v.cidrs, UsedAt (boot s svcs ws).1.alloc i cd) ∧
        ∀ j, Claims (boot s svcs ws).1.alloc v.name j → j = i :=
  Restart.restart_records_every_holder h svcs ws hf

/-- reservations of the crashed incarnation that never reached a node are gone: every association after the
restart belongs to a listed node that has pod CIDRs, all of them in use in that entry -/
theorem restart_forgets_unwritten_reservations {s : Sys} (h : Inv3 s) (svcs : List Cidr) (ws : List WOut)
    (hf : Frag3 s (.boot svcs ws)) :
    ∀ i x, Claims (boot s svcs ws).1.alloc x i →
      ∃ v ∈ (boot s svcs ws).1.api.nodes, v.name = x ∧ v.cidrs ≠ [] ∧ ∀ cd ∈ v.cidrs, UsedAt (boot s svcs ws).1.alloc i cd :=
  Restart.restart_claims_listed h svcs ws hf

/-- "blocks that had been reserved but never written are free": right after a restart a block is in use only if it
is a pod CIDR of a node associated with that entry (a listed node, by `restart_forgets_unwritten_reservations`) or
meets a configured service range -/
theorem after_restart_only_justified_blocks_are_used {s : Sys} (h : Inv3 s) (svcs : List Cidr) (ws : List WOut)
    (hf : Frag3 s (.boot svcs ws)) : Tight (boot s svcs ws).1 :=
  Restart.restart_withholds_only_justified h svcs ws hf

/-- crash between a successful node write and recording it -/
theorem crash_after_node_write {s : Sys} (h : Inv3 s) (name : String) (refresh : Bool) (ws : List WOut)
    (svcs : List Cidr) (ws' : List WOut) (hb : Frag3 (step s (.procNode name refresh ws)).1 (.boot svcs ws')) :
    Inv3 (run s [.procNode name refresh ws, .boot svcs ws']) :=
  Restart.crash_after_node_write h name refresh ws svcs ws' hb

/-- the new incarnation is a function of the API state alone (restated from `BootBasics.lean`) -/
theorem new_incarnation_depends_on_api_only (s t : Sys) (h : s.api = t.api) (svcs : List Cidr) (ws : List WOut) :
    boot s svcs ws = boot t svcs ws := boot_depends_on_api_only s t h svcs ws

/-- crash right after / right before an API write = that step with outcome `lost` / `fail`, then a restart -/
theorem crash_points_are_ordinary_histories (s : Sys) (e : Ev) (svcs : List Cidr) (ws : List WOut) :
    run s [e, .boot svcs ws] = (boot (step s e).1 svcs ws).1 := crash_points_are_histories s e svcs ws

/-- start-up order read from the current source: nodes are listed before the allocator is built, informers start
afterwards; inside the constructor: ClusterCIDRs, service ranges, listed nodes, node handlers -/
theorem startup_order_in_source : Facts.startupOrder = ["Nodes.List", "NewMultiCIDRRangeAllocator", "Start", "Start", "Run"] ∧
    Facts.constructorOrder = ["listClusterCIDRs", "reconcileBootstrap", "AddEventHandler:clusterCIDRInformer",
      "filterOutServiceRange", "filterOutServiceRange", "occupyCIDRs", "AddEventHandler:nodeInformer"] := startupOrder

/-- the hypotheses are satisfiable: a start state, and a history of the fragment (a start and two restarts) in which a node
lingers in deletion across a restart after its block went to another node (the shape of finding P25) -/
example : Inv3 exStart3 ∧ Frag3All exStart3 exHistory3 := ⟨exStart3_inv3, exHistory3_frag⟩

end Ipam.C03
