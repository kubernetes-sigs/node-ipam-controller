import IpamVerif.Lock
import IpamVerif.Props.C16
import IpamVerif.System
/-!
# C15 — concurrent workers produce the result of some one-at-a-time processing

What is proved:
* `mutex_reduction` (`Lock.lean`): operations of the form `acquire; body; release` over one mutex, under
  ANY interleaving that respects the mutex, leave the shared state equal to executing them one at a time
  in acquisition order;
* the operations of the controller have that form: every path from a worker, an informer callback or the
  public interface to the shared reservation state goes through one of the five functions that hold the
  lock for their whole body (C16, on the call graph regenerated from the source), and nothing inside
  re-acquires it;
* hence (`workers_equal_some_serial_order`, `serial_eq_run`) any concurrent run of work items over the allocator state is
  a history of the sequential model `Ipam.step` — the model the history properties C01 / C04 / C06 are
  stated and checked over.
PARTIAL, by name: data-race freedom in the sense of the Go memory model, the pools' own mutexes, the
client-go queues and informers, and the API server's concurrency are runtime behaviour this model cannot
exhibit.  Supporting validation (not proof): the `conc` stream runs the real `Run` with its 30+30 workers,
concurrent handler calls and a concurrent fake API under the race detector and judges the three
conclusions on the final state.
-/
namespace Ipam.C15
open Ipam.Lock

/-- a work item as an operation on the shared allocator-side state: the whole body runs under the lock -/
def itemOp (body : Sys → Sys) : Op Sys := ⟨[body]⟩

/-- **any mutex-respecting interleaving of work items equals processing them one at a time in the order
they acquired the lock** -/
theorem workers_equal_some_serial_order (items : List (Sys → Sys)) (s0 : Sys) (sched : List Act) (m : MState Sys)
    (h : execAll (items.map itemOp) ⟨s0, none, 0, []⟩ sched = some m) (hfree : m.holder = none) :
    m.shared = serial (items.map itemOp) s0 m.order :=
  mutex_reduction (items.map itemOp) s0 sched m h hfree

/-- the serial execution, in any order, of work-item bodies that are model steps is a run of the sequential
model over the events that order names -/
theorem serial_eq_run (evs : List Ev) (s0 : Sys) (order : List Nat) :
    serial (evs.map (fun e => itemOp (fun s => (step s e).1))) s0 order = run s0 (order.filterMap (evs[·]?)) := by
  rw [serial_eq_foldl, run]
  simp only [List.getElem?_map, ← List.map_filterMap, List.foldl_map]
  rfl

/-- the serial execution of work-item bodies that are model steps is a run of the sequential model -/
theorem serial_is_model_run (evs : List Ev) (s0 : Sys) :
    serial (evs.map (fun e => itemOp (fun s => (step s e).1))) s0 (List.range evs.length) = run s0 evs := by
  rw [serial_eq_run, filterMap_range_getElem?]

/-- the five entry points that reach the shared state hold the lock for their whole body (regenerated fact) -/
theorem entry_points_hold_the_lock :
    (Facts.graph.fns.filter (fun f => f.holdsLock)).map (·.name) =
      ["multiCIDRRangeAllocator.AllocateOrOccupyCIDR", "multiCIDRRangeAllocator.ReleaseCIDR",
       "multiCIDRRangeAllocator.reconcileBootstrap", "multiCIDRRangeAllocator.reconcileCreate",
       "multiCIDRRangeAllocator.reconcileDelete"] := rfl

end Ipam.C15
