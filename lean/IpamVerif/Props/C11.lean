import IpamVerif.System
import IpamVerif.Facts
import IpamVerif.Pending
/-!
# C11 — when changes stop the controller converges; failed items are queued again

Proved here: a work item whose sync returned an error is in its queue again after the step
(`AddRateLimited`); a refusal is an error.  That the bookkeeping of a work item puts the key back only then
(`Forget` otherwise) is the shape of `procNode_eq` / `procCC_eq`, read by `mem_requeue`; a cache refresh in the middle
of a node item enqueues the key on its own account (`NodeItem.view`).  The program-text side (both worker loops reach
`AddRateLimited(key)` on the error branch and `Forget` only on success) is checked on the regenerated fact table
(`workerLoopsRequeue` below).
The safety half over whole histories — nothing is forgotten, so a quiescent state is the intended one — is `Pending.lean`
(`steady_state_is_the_intended_one` below).
PARTIAL: convergence itself ("a fair run reaches the intended steady state") is established by the
drain stream of the correspondence check and its judge, not by a Lean liveness proof; real back-off
timing is not modelled (queue contract: `AddRateLimited` eventually re-delivers).
-/
namespace Ipam.C11

theorem failed_node_item_requeued (s : Sys) (name : String) (refresh : Bool) (ws : List WOut)
    (h : (procNode s name refresh ws).2.res = "err") : name ∈ (procNode s name refresh ws).1.nodeQ := by
  rw [procNode_obs] at h
  rw [procNode_eq]
  dsimp only
  exact mem_requeue.mpr (Or.inr ⟨h, rfl⟩)

theorem failed_cc_item_requeued (s : Sys) (name : String) (w : WOut)
    (h : (procCC s name w).2.res = "err") : name ∈ (procCC s name w).1.ccQ := by
  rw [procCC_obs] at h
  rw [procCC_eq]
  dsimp only
  exact mem_requeue.mpr (Or.inr ⟨h, rfl⟩)

/-- a refusal (no ClusterCIDR can serve the node) is an error, hence retried, and is recorded as an event -/
theorem refusal_is_error (s : Sys) (n : NodeObj) (refresh : Bool) (ws : List WOut) (hn : n.hasCidrs = false)
    (al : Alloc) (h : s.alloc.prioritized (s.alloc.ordered n.labels true) = (al, none)) :
    (allocateOrOccupy s n refresh ws).2.res = "err" ∧ (allocateOrOccupy s n refresh ws).2.events = ["CIDRNotAvailable"] ∧
    (allocateOrOccupy s n refresh ws).2.patches = [] := by
  rcases allocate_cases s n refresh with ⟨hc, _⟩ | ⟨_, al', r, hp, ⟨_, e⟩ | ⟨_, _, rfl, _⟩⟩
  · rw [hn] at hc; cases hc
  · rw [e]; exact ⟨rfl, rfl, rfl⟩
  · rw [h] at hp; cases hp

/-- the worker loops re-queue on error and forget only on success (C11), regenerated fact -/
theorem workerLoopsRequeue : Facts.workerLoops =
    [("processNextCIDRWorkItem", true, true), ("processNextNodeWorkItem", true, true)] := rfl

/-- **C11, the safety half, over whole histories**: from the empty controller, through any history in which no object is
re-created under a name the cache still holds — restarts, failed and lost writes, label edits, foreign writers, duplicate
and late notifications included — whenever the queues are empty and the caches are current, every node that is not
being deleted has pod CIDRs, every ClusterCIDR under deletion has been released and every other one carries the
finalizer.  Unserved nodes and unfinished ClusterCIDRs are never dropped: they stay queued (`Pending.Pend`). -/
theorem steady_state_is_the_intended_one (evs : List Ev) (hf : Pending.Frag2All Sys.init evs)
    (hnq : (run Sys.init evs).nodeQ = []) (hcq : (run Sys.init evs).ccQ = [])
    (hn : ∀ x, getNode (run Sys.init evs).nodeView x = getNode (run Sys.init evs).api.nodes x)
    (hc : ∀ x, getCC (run Sys.init evs).ccView x = getCC (run Sys.init evs).api.ccs x) :
    (∀ x y, getNode (run Sys.init evs).api.nodes x = some y → y.deleting = false → y.hasCidrs = true) ∧
    (∀ x o, getCC (run Sys.init evs).api.ccs x = some o →
      (o.deleting = true → hasFin o = false) ∧ (o.deleting = false → hasFin o = true)) := by
  have h := Pending.pend_run evs Sys.init Pending.pend_init hf
  exact ⟨Pending.quiescent_nodes_served h hnq hn, Pending.quiescent_ccs_done h hcq hc⟩

end Ipam.C11
