import IpamVerif.Validation
/-!
# C18 — validation accepts exactly the documented specs; the spec is immutable
-/
namespace Ipam.C18
open Ipam.Validation

/-- a well-formed label requirement, as documented -/
def ReqOK (L : Lib) (r : Req) : Prop :=
  L.labelNameOK r.key = true ∧
  ((r.op = "In" ∨ r.op = "NotIn") ∧ r.vals.length ≥ 1 ∨
   (r.op = "Exists" ∨ r.op = "DoesNotExist") ∧ r.vals.length = 0 ∨
   (r.op = "Gt" ∨ r.op = "Lt") ∧ r.vals.length = 1)

/-- a well-formed field requirement -/
def FieldReqOK (L : Lib) (r : Req) : Prop :=
  (r.op = "In" ∨ r.op = "NotIn") ∧ r.vals.length = 1 ∧ r.key = "metadata.name" ∧ ∀ v ∈ r.vals, L.nodeNameOK v = true

def TermOK (L : Lib) (t : Term) : Prop := (∀ r ∈ t.exprs, ReqOK L r) ∧ (∀ r ∈ t.fields, FieldReqOK L r)

/-- the documented rule -/
def Documented (L : Lib) (s : Spec) : Prop :=
  (s.ipv4 ≠ "" ∨ s.ipv6 ≠ "") ∧
  (s.ipv4 ≠ "" → ∃ len, L.parse s.ipv4 = .v4 len ∧ 4 ≤ s.hostBits ∧ s.hostBits ≤ 32 - (len : Int)) ∧
  (s.ipv6 ≠ "" → ∃ len, L.parse s.ipv6 = .v6 len ∧ 4 ≤ s.hostBits ∧ s.hostBits ≤ 128 - (len : Int)) ∧
  (∀ ts, s.sel = some ts → ts.length ≥ 1 ∧ ∀ t ∈ ts, TermOK L t)

/-! Every validator concatenates conditional pieces; the result is empty iff no piece contributes. -/

theorem ite_cons_eq_nil {α : Type} {c : Prop} [Decidable c] {e : α} {l a : List α} :
    (if c then e :: l else a) = [] ↔ ¬ c ∧ a = [] := by
  by_cases h : c <;> simp [h]

theorem ite_eq_nil_cons {α : Type} {c : Prop} [Decidable c] {e : α} {l a : List α} :
    (if c then a else e :: l) = [] ↔ c ∧ a = [] := by
  by_cases h : c <;> simp [h]

theorem ite_nil_right {α : Type} {c : Prop} [Decidable c] {a : List α} :
    (if c then a else []) = [] ↔ (c → a = []) := by
  by_cases h : c <;> simp [h]

/-- a `switch` over mutually exclusive cases whose default reports an error -/
theorem switch_eq_nil {α : Type} {p q r : Prop} [Decidable p] [Decidable q] [Decidable r]
    {a b c d : List α} {e : α} (pq : p → ¬ q) (pr : p → ¬ r) (qr : q → ¬ r) :
    (if p then a else if q then b else if r then c else e :: d) = [] ↔
      p ∧ a = [] ∨ q ∧ b = [] ∨ r ∧ c = [] := by
  by_cases hp : p
  · simp [hp, pq hp, pr hp]
  · by_cases hq : q
    · simp [hp, hq, qr hq]
    · by_cases hr : r <;> simp [hp, hq, hr]

theorem validateReq_nil (L : Lib) (r : Req) : validateReq L r = [] ↔ ReqOK L r := by
  unfold validateReq ReqOK
  -- the three operator classes exclude each other because the six names differ
  rw [List.append_eq_nil_iff, and_comm, switch_eq_nil (by rintro (h | h) <;> simp [h])
    (by rintro (h | h) <;> simp [h]) (by rintro (h | h) <;> simp [h])]
  simp only [ite_cons_eq_nil, ite_eq_nil_cons, and_true, gt_iff_lt, Nat.not_lt, Nat.le_zero_eq, ne_eq,
    Decidable.not_not, ge_iff_le, Nat.one_le_iff_ne_zero]

theorem validateFieldReq_nil (L : Lib) (r : Req) : validateFieldReq L r = [] ↔ FieldReqOK L r := by
  unfold validateFieldReq FieldReqOK
  simp only [List.append_eq_nil_iff, ite_cons_eq_nil, ite_eq_nil_cons, and_true, ne_eq, Decidable.not_not,
    List.map_eq_nil_iff, List.filter_eq_nil_iff, Bool.not_eq_true', Bool.not_eq_false, and_assoc]

theorem validateTerm_nil (L : Lib) (t : Term) : validateTerm L t = [] ↔ TermOK L t := by
  unfold validateTerm TermOK
  simp only [List.append_eq_nil_iff, List.flatten_eq_nil_iff, List.forall_mem_map, validateReq_nil,
    validateFieldReq_nil]

theorem validateSelector_nil (L : Lib) (ts : List Term) :
    validateSelector L ts = [] ↔ ts.length ≥ 1 ∧ ∀ t ∈ ts, TermOK L t := by
  unfold validateSelector
  simp only [ite_cons_eq_nil, List.flatten_eq_nil_iff, List.forall_mem_map, validateTerm_nil, ge_iff_le,
    Nat.one_le_iff_ne_zero]

theorem selector_nil (L : Lib) (o : Option (List Term)) :
    (match o with | none => [] | some ts => validateSelector L ts) = [] ↔
      ∀ ts, o = some ts → ts.length ≥ 1 ∧ ∀ t ∈ ts, TermOK L t := by
  cases o with
  | none => exact iff_of_true rfl (fun _ h => nomatch h)
  | some ts => simp only [validateSelector_nil, Option.some.injEq, forall_eq']

/-- the host-bits checks of `validateCIDRConfig`, the same for both families -/
theorem hostBits_nil (hb m : Int) :
    (if hb < 4 then [Err.hostBitsTooSmall] else []) ++ (if hb > m then [Err.hostBitsTooBig] else []) = [] ↔
      4 ≤ hb ∧ hb ≤ m := by
  simp only [List.append_eq_nil_iff, ite_cons_eq_nil, and_true, Int.not_lt, gt_iff_lt]

theorem validateCIDR4_nil (L : Lib) (s : String) (hb : Int) :
    validateCIDR4 L s hb = [] ↔ ∃ len, L.parse s = .v4 len ∧ 4 ≤ hb ∧ hb ≤ 32 - (len : Int) := by
  unfold validateCIDR4
  cases L.parse s with
  | v4 len => simp only [hostBits_nil, Parsed.v4.injEq, exists_eq_left']
  | _ => simp

theorem validateCIDR6_nil (L : Lib) (s : String) (hb : Int) :
    validateCIDR6 L s hb = [] ↔ ∃ len, L.parse s = .v6 len ∧ 4 ≤ hb ∧ hb ≤ 128 - (len : Int) := by
  unfold validateCIDR6
  cases L.parse s with
  | v6 len => simp only [hostBits_nil, Parsed.v6.injEq, exists_eq_left']
  | _ => simp

/-- **validation accepts a spec exactly when it is as documented** — for every parser outcome,
every `Int` host bits, every selector shape -/
theorem accepts_iff_documented (L : Lib) (s : Spec) : validateSpec L s = [] ↔ Documented L s := by
  unfold validateSpec Documented
  by_cases h0 : s.ipv4 = "" ∧ s.ipv6 = ""
  · rw [if_pos h0]
    exact iff_of_false (by simp) (fun h => h.1.elim (· h0.1) (· h0.2))
  · have hne : s.ipv4 ≠ "" ∨ s.ipv6 ≠ "" := Decidable.not_and_iff_not_or_not.mp h0
    simp only [if_neg h0, List.append_eq_nil_iff, ite_nil_right, validateCIDR4_nil, validateCIDR6_nil, hne,
      true_and]
    exact ⟨fun ⟨⟨a, b⟩, c⟩ => ⟨b, c, (selector_nil L _).mp a⟩,
      fun ⟨b, c, a⟩ => ⟨⟨(selector_nil L _).mpr a, b⟩, c⟩⟩

/-- **update validation rejects every change to a spec field and accepts an unchanged spec** -/
theorem update_accepts_iff_unchanged (upd old : Spec) : validateUpdate upd old = [] ↔ upd = old := by
  unfold validateUpdate
  cases upd; cases old
  simp only [List.append_eq_nil_iff, ite_eq_nil_cons, and_true, Spec.mk.injEq, and_assoc]

/-! non-vacuity: a documented dual-stack spec with a selector exists and is accepted -/
def exLib : Lib := ⟨fun s => if s = "10.0.0.0/8" then .v4 8 else if s = "fd00::/64" then .v6 64 else .malformed,
  fun _ => true, fun _ => true⟩
def exSpec : Spec := ⟨some [⟨[⟨"zone", "In", ["a", "b"]⟩, ⟨"gpu", "Exists", []⟩], [⟨"metadata.name", "In", ["n1"]⟩]⟩], 8, "10.0.0.0/8", "fd00::/64"⟩
example : validateSpec exLib exSpec = [] := by decide +kernel
example : validateSpec exLib { exSpec with hostBits := 25 } = [.hostBitsTooBig] := by decide +kernel

end Ipam.C18
