import IpamVerif.Props.C14
import IpamVerif.Lock
import IpamVerif.Facts
/-!
# C19 — exported pool metrics agree with the pool's real state

The pool model carries the four series the property names: `allocs`
(`…_cidrs_allocations_total`), `releases` (`…_cidrs_releases_total`),
`maxGauge` (`…_max_cidrs`) and `usage` (numerator of `…_usage_cidrs`; the
denominator is the capacity).  For a range configured once (unique label) the
series of a label are written by one pool only, so the model's fields are the
series.  That the series are registered and served is a fact about the program
text, checked on the regenerated fact table (`Facts.lean`, theorem `metricsServed` below).

"At all times" includes callers on several goroutines: the pool has a mutex of its own.  The theorems
of the first part are about one-at-a-time histories; that concurrent calls on one pool are such a history rests on
the pool's lock discipline, which is a fact about the program text: `Facts.poolGraph` (regenerated from
`multicidrset/*.go` on every run; every method split at its `Lock(); defer Unlock()` pair; a field is
*mutable* when some method writes it) is accepted by the same checker as the allocator's table
(`pool_state_only_under_pool_lock`, `pool_lock_not_reentered`), and `Lock.mutex_reduction` turns
lock-protected bodies into a serial order.
-/
namespace Ipam.C19

/-- after **any** history on a pool: `max_cidrs` = capacity, `usage` = used / capacity,
`allocations_total − releases_total` = number of distinct used blocks -/
theorem metrics_tell_the_truth (g : Geo) (l : String) (hg : C14.Supported g) (ops : List PoolOp)
    (hops : ∀ op ∈ ops, C14.OpWF op) (p : Pool) (hp : p = (Pool.new g l).run ops) :
    p.maxGauge = g.max ∧ p.usage = p.used.length ∧ p.allocs - p.releases = p.used.length ∧
    p.releases ≤ p.allocs ∧ p.used.Nodup := by
  obtain ⟨hI, hgeo⟩ := C14.ops_inv g l hg ops hops
  rw [← hp] at hI hgeo
  refine ⟨hI.maxg.trans (congrArg Geo.max hgeo), hI.usage_eq.trans hI.count_eq, ?_, ?_, hI.nodup⟩
  · rw [hI.metrics, Nat.add_sub_cancel_left, hI.count_eq]
  · rw [hI.metrics]; exact Nat.le_add_right _ _

/-- repeated occupy of the same CIDR is counted once: the second call changes no series -/
theorem repeated_occupy_counted_once {p p' : Pool} (hg : C14.Supported p.geo) (hI : p.Inv) {cd : Cidr}
    (hcd : cd.WF) (h : p.occupy cd = some p') :
    ∀ p'', p'.occupy cd = some p'' → p''.allocs = p'.allocs ∧ p''.releases = p'.releases ∧ p''.usage = p'.usage := by
  intro p'' h2
  rw [C14.occupy_idempotent hg hI hcd h] at h2
  cases h2; exact ⟨rfl, rfl, rfl⟩

theorem repeated_release_counted_once {p p' : Pool} (hg : C14.Supported p.geo) (hI : p.Inv) {cd : Cidr}
    (hcd : cd.WF) (h : p.release cd = some p') :
    ∀ p'', p'.release cd = some p'' → p''.allocs = p'.allocs ∧ p''.releases = p'.releases ∧ p''.usage = p'.usage := by
  intro p'' h2
  rw [C14.release_idempotent hg hI hcd h] at h2
  cases h2; exact ⟨rfl, rfl, rfl⟩

/-- a failing operation and `NextCandidate` change no series -/
theorem next_changes_no_series {p : Pool} (hI : p.Inv) {c k : Nat} {p' : Pool} (h : p.next = some (c, k, p')) :
    p'.allocs = p.allocs ∧ p'.releases = p.releases ∧ p'.usage = p.usage ∧ p'.maxGauge = p.maxGauge := by
  obtain ⟨_, _, _, _, _, hp', _⟩ := C14.next_some hI h
  rw [hp']; exact ⟨rfl, rfl, rfl, rfl⟩

example : ((Pool.new ⟨.v4, 0x0a000000, 24, 26⟩ "10.0.0.0/24").run
    [.occupy ⟨.v4, 0x0a000040, 27⟩, .occupy ⟨.v4, 0x0a000040, 26⟩, .release ⟨.v4, 0x0a000040, 28⟩,
     .release ⟨.v4, 0x0a000040, 28⟩, .occupy ⟨.v4, 0x0a000000, 16⟩]).allocs = 5 := by decide

/-! ### the pool's own lock (regenerated table) -/
open Ipam.Lock in
theorem pool_checker_accepts : checker Facts.poolGraph = true := by rw [checker_eq_fast]; decide +kernel

open Ipam.Lock in
/-- the counters, the used-block map and the cursor of a pool are only accessed by code that runs between
the method's `Lock()` and its deferred `Unlock()` -/
theorem pool_state_only_under_pool_lock (n : String) (hr : ReachU Facts.poolGraph n) (f : Fn)
    (hl : Facts.poolGraph.lookup n = some f) (ht : f.touches = true) : f.holdsLock = true :=
  checker_sound_touch Facts.poolGraph pool_checker_accepts n hr f hl ht

open Ipam.Lock in
theorem pool_lock_not_reentered (n : String) (hr : ReachL Facts.poolGraph n) (f : Fn)
    (hl : Facts.poolGraph.lookup n = some f) : f.acquires = false :=
  checker_sound_no_reacquire Facts.poolGraph pool_checker_accepts n hr f hl

/-- non-vacuity: the three state-changing methods are entry points, their locked parts touch the state,
and the counter the series are computed from is among the mutable fields -/
example : ["MultiCIDRSet.NextCandidate", "MultiCIDRSet.Occupy", "MultiCIDRSet.Release"].all
    (fun m => (Ipam.Lock.rootsU Facts.poolGraph).contains m) = true := by decide +kernel
example : (Facts.poolGraph.fns.filter (fun f => f.holdsLock && f.touches)).map (·.name) =
    ["MultiCIDRSet.NextCandidate$locked", "MultiCIDRSet.Occupy$locked", "MultiCIDRSet.Release$locked"] := by decide +kernel
example : Facts.poolMutableFields.contains "allocatedCIDRs" = true := by decide +kernel

/-- the four series the property names are among the registered metric vectors (the name `multicirdset_max_cidrs` is
spelt as in `metrics.go`), and `/metrics` is bound to the Prometheus handler -/
theorem metricsServed : Facts.metricsEndpoint = true ∧
    ["multicidrset_cidrs_allocations_total", "multicidrset_cidrs_releases_total", "multicidrset_usage_cidrs", "multicirdset_max_cidrs"].all
      (fun m => Facts.metricsRegistered.contains m) = true := ⟨rfl, by decide +kernel⟩

end Ipam.C19
