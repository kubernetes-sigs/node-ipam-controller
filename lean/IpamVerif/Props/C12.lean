import IpamVerif.StepLemmas
/-!
# C12 — no watched object content can crash the controller or cause a bogus assignment

The model is a total function of arbitrary object content: range fields as whatever Go's parser makes of
them (`RangeField`: empty / malformed / a CIDR of either family), `perNodeHostBits` any `Int`, selectors any
shape with the library's verdict on keys and values attached, node pod CIDRs any parse result (`junk`),
notifications as objects or tombstones.  Every place where the Go code could dereference a missing pool
is an explicit error branch of the model (`CC.occupy` / `CC.release` return `none` when the entry has no
pool of the CIDR's family — the behaviour after the repair of `associatedCIDRSet`), the loop of
`allocateCIDR` runs on explicit fuel (`allocLoop_spec` shows the fuel never decides the outcome).  Whether
the Go code really has no other panic or stall is decided by the tie: the `mal` stream runs every step
under `recover` and a watchdog and compares with the model.

Proved here: unusable ClusterCIDRs are rejected with an error, nothing is mapped and nothing is written
(`unusable_rejected`), with the exact characterisation of "unusable" (`buildCC_none_iff`,
`newGeo_none_iff`); every step reports one of the three ordinary results (`step_result_ordinary`).
That whatever is PATCHed is a proper block of a usable ClusterCIDR is `Props/C02`.
-/
namespace Ipam.C12

/-- `NewMultiCIDRSet` rejects exactly: negative host bits, more host bits than the range has, more than
16 IPv6 index bits -/
theorem newGeo_none_iff (r : Cidr) (hb : Int) :
    newGeo r hb = none ↔ (hb < 0 ∨ hb > (r.W : Int) - (r.len : Int) ∨ (r.fam = .v6 ∧ (r.W : Int) - hb - (r.len : Int) > 16)) := by
  unfold newGeo
  dsimp only
  by_cases h1 : hb < 0 ∨ (r.W : Int) - hb < (r.len : Int)
  · rw [if_pos h1]
    exact iff_of_true rfl (h1.imp_right fun h => Or.inl (by omega))
  rw [if_neg h1]
  by_cases h2 : r.fam = .v6 ∧ (r.W : Int) - hb - (r.len : Int) > 16
  · rw [if_pos h2]
    exact iff_of_true rfl (Or.inr (Or.inr h2))
  rw [if_neg h2]
  refine iff_of_false nofun ?_
  rintro (h | h | h)
  · exact h1 (Or.inl h)
  · exact h1 (Or.inr (by omega))
  · exact h2 h

/-- a range field from which no pool can be built -/
def FieldUnusable (fld : RangeField) (want : Fam) (hb : Int) : Prop :=
  fld = .malformed ∨ ∃ c l, fld = .ok c l ∧ (c.fam ≠ want ∨ newGeo c hb = none)

theorem buildPool_none_iff (fld : RangeField) (want : Fam) (hb : Int) :
    buildPool fld want hb = none ↔ FieldUnusable fld want hb := by
  unfold buildPool FieldUnusable
  cases fld with
  | empty => simp
  | malformed => simp
  | ok c l =>
    simp only [reduceCtorEq, false_or, RangeField.ok.injEq]
    by_cases hf : c.fam = want
    · simp only [hf, ne_eq, not_true_eq_false, if_false]
      cases hg : newGeo c hb <;> simp [hf, hg]
    · simp [hf]

/-- **"unusable"**: a non-empty range field that does not parse, is of the other family, or does not fit
the host bits; or both fields empty -/
theorem buildCC_none_iff (key : String) (reqs : List Req) (name : String) (spec : CCSpec) (t : Bool) :
    buildCC key reqs name spec t = none ↔
      (FieldUnusable spec.ipv4 .v4 spec.hostBits ∨ FieldUnusable spec.ipv6 .v6 spec.hostBits ∨
       (spec.ipv4 = .empty ∧ spec.ipv6 = .empty)) := by
  unfold buildCC
  rw [← buildPool_none_iff, ← buildPool_none_iff]
  cases h4 : buildPool spec.ipv4 .v4 spec.hostBits with
  | none => simp
  | some p4 =>
    cases h6 : buildPool spec.ipv6 .v6 spec.hostBits with
    | none => simp
    | some p6 =>
      simp only [reduceCtorEq, false_or]
      -- a field yields no pool (and no error) exactly when it is empty
      have key : ∀ {fld want} {p : Option Pool}, buildPool fld want spec.hostBits = some p → (p = none ↔ fld = .empty) := by
        intro fld want p h
        unfold buildPool at h
        cases fld with
        | empty => simp at h; simp [h.symm]
        | malformed => simp at h
        | ok c l =>
          simp only at h
          split at h
          · cases h
          · cases hg : newGeo c spec.hostBits <;> rw [hg] at h <;> simp at h
            simp [← h]
      have e4 := key h4
      have e6 := key h6
      constructor
      · intro h
        split at h
        · rename_i hh
          simp only [Bool.and_eq_true, Option.isNone_iff_eq_none] at hh
          exact ⟨e4.mp hh.1, e6.mp hh.2⟩
        · cases h
      · rintro ⟨h1, h2⟩
        rw [if_pos (by simp [e4.mpr h1, e6.mpr h2])]

/-- **an unusable ClusterCIDR (or one whose selector cannot be represented) is rejected with an error:
nothing is mapped, nothing is written, the API and the caches are untouched** -/
theorem unusable_rejected (s : Sys) (o : CCObj) (t : Bool) (w : WOut)
    (h : selectorOf o.spec.sel = none ∨
         ∀ reqs, selectorOf o.spec.sel = some reqs → s.alloc.mapped (printSel reqs) o.name = false ∧
           buildCC (printSel reqs) reqs o.name o.spec t = none) :
    createClusterCIDR s o t w = (s, { res := "err" }) := by
  unfold createClusterCIDR
  have : s.alloc.createCC o.name o.spec t = none := by
    unfold Alloc.createCC
    rcases h with h | h
    · rw [h]
    · cases hs : selectorOf o.spec.sel with
      | none => rfl
      | some reqs =>
        obtain ⟨h1, h2⟩ := h reqs hs
        simp only [h1, Bool.false_eq_true, if_false, h2]
  rw [this]

def ordinary (r : String) : Prop := r = "none" ∨ r = "ok" ∨ r = "err"

theorem ordinary_ite (b : Bool) : ordinary (if b then "ok" else "err") := by
  cases b
  · exact Or.inr (Or.inr rfl)
  · exact Or.inr (Or.inl rfl)

theorem updateCIDRsAllocation_ordinary (s : Sys) (n : String) (cs : List Cidr) (i : Nat) (ws : List WOut) :
    ordinary (updateCIDRsAllocation s n cs i ws).2.res := by
  rcases update_cases s n cs i with ⟨_, e⟩ | ⟨_, _, ⟨_, _, e⟩ | ⟨_, _, e⟩ | ⟨_, _, e⟩⟩ <;> rw [e ws]
  · exact Or.inr (Or.inr rfl)
  · exact Or.inr (Or.inl rfl)
  · exact ordinary_ite _
  · split
    · exact Or.inr (Or.inl rfl)
    · exact Or.inr (Or.inr rfl)

theorem allocateOrOccupy_ordinary (s : Sys) (n : NodeObj) (r : Bool) (ws : List WOut) :
    ordinary (allocateOrOccupy s n r ws).2.res := by
  rcases allocate_cases s n r with ⟨_, e⟩ | ⟨_, al, _, _, ⟨_, e⟩ | ⟨cidrs, i, _, _, ⟨_, e⟩ | ⟨_, _, _, e⟩ | ⟨_, _, e⟩⟩⟩ <;>
    rw [e ws]
  · exact ordinary_ite _
  · exact Or.inr (Or.inr rfl)
  · exact updateCIDRsAllocation_ordinary ..
  · exact updateCIDRsAllocation_ordinary ..
  · exact Or.inr (Or.inr rfl)

theorem procNode_ordinary (s : Sys) (n : String) (r : Bool) (ws : List WOut) : ordinary (procNode s n r ws).2.res := by
  rw [procNode_obs]
  rcases procNodeCore_cases { s with nodeQ := qDel s.nodeQ n } n r with ⟨_, e⟩ | ⟨_, _, _, ⟨_, e⟩ | ⟨_, e⟩⟩ <;> rw [e ws]
  · exact Or.inr (Or.inl rfl)
  · exact ordinary_ite _
  · exact allocateOrOccupy_ordinary ..

theorem createClusterCIDR_ordinary (s : Sys) (o : CCObj) (t : Bool) (w : WOut) : ordinary (createClusterCIDR s o t w).2.res := by
  unfold createClusterCIDR
  split
  · exact Or.inr (Or.inr rfl)
  · exact ordinary_ite _

theorem procCC_ordinary (s : Sys) (n : String) (w : WOut) : ordinary (procCC s n w).2.res := by
  rw [procCC_obs]
  rcases procCCCore_cases { s with ccQ := qDel s.ccQ n } n w with ⟨_, e⟩ | ⟨o, _, _, ⟨_, e⟩ | ⟨_, _, e⟩⟩ <;> rw [e]
  · exact Or.inr (Or.inl rfl)
  · rcases reconcileDelete_cases { s with ccQ := qDel s.ccQ n } o w with ⟨_, e⟩ | ⟨_, ⟨_, e⟩ | ⟨_, _, _, e⟩⟩ <;> rw [e]
    · exact Or.inr (Or.inl rfl)
    · exact Or.inr (Or.inr rfl)
    · exact ordinary_ite _
  · exact createClusterCIDR_ordinary ..

/-- every step of the model — whatever the event carries — ends with one of the ordinary results -/
theorem step_result_ordinary (s : Sys) (e : Ev) : ordinary (step s e).2.res := by
  by_cases hn : e.envNode = true
  · rw [step_envNode hn]; exact Or.inl rfl
  by_cases hc : e.envCC = true
  · rw [step_envCC hc]; exact Or.inl rfl
  cases e with
  | boot svcs ws => exact Or.inr (Or.inl (congrArg (·.2.res) (boot_eq s svcs ws)))
  | procNode n r ws =>
    rcases step_procNode s n r ws with h | h <;> rw [h]
    · exact Or.inl rfl
    · exact procNode_ordinary ..
  | procCC n w =>
    rcases step_procCC s n w with h | h <;> rw [h]
    · exact Or.inl rfl
    · exact procCC_ordinary ..
  | deliverNode n t => rcases step_deliverNode s n t with ⟨_, _, h⟩ | ⟨_, _, h⟩ | ⟨_, _, _, h⟩ <;> rw [h] <;> exact Or.inl rfl
  | deliverCC n => rcases step_deliverCC s n with ⟨_, _, h⟩ | ⟨_, _, h⟩ | ⟨_, h⟩ <;> rw [h] <;> exact Or.inl rfl
  | ccAdd | ccDel | ccGen | ccAddFin => exact absurd rfl hc
  | _ => exact absurd rfl hn

example : newGeo ⟨.v4, 0x0a000000, 24⟩ (-1) = none := by decide
example : newGeo ⟨.v6, 0xfd000000000000000000000000000000, 64⟩ 4 = none := by decide
example : buildCC "k" [] "x" ⟨none, 4, .ok ⟨.v6, 0xfd000000000000000000000000000000, 120⟩ "fd00::/120", .empty⟩ false = none := by decide

end Ipam.C12
