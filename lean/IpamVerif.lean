import IpamVerif.Addr
import IpamVerif.AddrLemmas
import IpamVerif.Props.C13
import IpamVerif.Pool
import IpamVerif.PoolLemmas
import IpamVerif.Props.C14
import IpamVerif.Lock
import IpamVerif.Facts
import IpamVerif.Props.C19
import IpamVerif.Selector
import IpamVerif.Alloc
import IpamVerif.SortLemmas
import IpamVerif.AllocLemmas
import IpamVerif.Props.C07
import IpamVerif.Props.C17
import IpamVerif.System
import IpamVerif.MapLemmas
import IpamVerif.ApiLemmas
import IpamVerif.ItemLemmas
import IpamVerif.NoRewrite
import IpamVerif.Props.C02
import IpamVerif.BootLemmas
import IpamVerif.StepLemmas
import IpamVerif.Pending
import IpamVerif.Props.C11
import IpamVerif.Props.C05
import IpamVerif.AllocObs
import IpamVerif.AllocOrder
import IpamVerif.Recorded
import IpamVerif.Frame
import IpamVerif.OnePer
import IpamVerif.Sticky
import IpamVerif.Shape
import IpamVerif.Justified
import IpamVerif.Stable
import IpamVerif.Props.C09
import IpamVerif.Props.C12
import IpamVerif.Props.C20
import IpamVerif.Safety
import IpamVerif.Tight
import IpamVerif.BootBasics
import IpamVerif.Restart
import IpamVerif.Props.C01
import IpamVerif.Props.C03
import IpamVerif.Props.C04
import IpamVerif.Props.C06
import IpamVerif.Props.C08
import IpamVerif.Props.C10
import IpamVerif.Validation
import IpamVerif.Props.C18
import IpamVerif.Props.C16
import IpamVerif.Props.C15
